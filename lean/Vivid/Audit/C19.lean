import Vivid.Props.C19
import Vivid.Props.C19C20Global
#print axioms Vivid.ActorSys.keyed_nil
#print axioms Vivid.ActorSys.keyed_filter
#print axioms Vivid.ActorSys.C19_keyed_sub
#print axioms Vivid.ActorSys.C19_keyed_unsub
#print axioms Vivid.ActorSys.C19_keyed_unsubAll
#print axioms Vivid.ActorSys.C19_subscribe_idem
#print axioms Vivid.ActorSys.C19_unsub
#print axioms Vivid.ActorSys.C19_unsubAll
#print axioms Vivid.ActorSys.C19_publish_exact
#print axioms Vivid.ActorSys.C19_publish_once_per_subscription
#print axioms Vivid.ActorSys.C19_on_death
#print axioms Vivid.ActorSys.C19_on_restart
#print axioms Vivid.ActorSys.C19_on_restart_relaunch
#print axioms Vivid.ActorSys.M10_tables_invariant
#print axioms Vivid.ActorSys.C19_terminated_holds_no_subscription
#print axioms Vivid.ActorSys.C20_jobs_die_with_their_actor
#print axioms Vivid.ActorSys.C20_queued_job_is_recorded
