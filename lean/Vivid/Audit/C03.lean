import Vivid.Props.C03
import Vivid.Props.C03Global
import Vivid.Props.C03Exact
import Vivid.Props.C09Global
#print axioms Vivid.ActorSys.C03_unknown_path_dead_letters
#print axioms Vivid.ActorSys.C03_not_running_dead_letters
#print axioms Vivid.ActorSys.C03_after_stop_dropped
#print axioms Vivid.ActorSys.carries_iff_carried
#print axioms Vivid.ActorSys.Ghost.has_add
#print axioms Vivid.ActorSys.stepG_state
#print axioms Vivid.ActorSys.foldl_st
#print axioms Vivid.ActorSys.foldl_inv
#print axioms Vivid.ActorSys.C03_runG_state
#print axioms Vivid.ActorSys.acct_applyOp
#print axioms Vivid.ActorSys.fate_recorded
#print axioms Vivid.ActorSys.inv_step
#print axioms Vivid.ActorSys.inv_init
#print axioms Vivid.ActorSys.inv_run
#print axioms Vivid.ActorSys.C03_never_lost
#print axioms Vivid.ActorSys.C03_wellformed
#print axioms Vivid.ActorSys.C03_dropped_only_after_stop
#print axioms Vivid.ActorSys.C03_processed_runs_behaviour
#print axioms Vivid.ActorSys.stepE_state
#print axioms Vivid.ActorSys.C03_runE_state
#print axioms Vivid.ActorSys.validId_step
#print axioms Vivid.ActorSys.deltaE_row
#print axioms Vivid.ActorSys.balance
#print axioms Vivid.ActorSys.invE_step
#print axioms Vivid.ActorSys.invE_run
#print axioms Vivid.ActorSys.total_init
#print axioms Vivid.ActorSys.invE_init
#print axioms Vivid.ActorSys.C03_exact_account
#print axioms Vivid.ActorSys.C03_exactly_one_place
#print axioms Vivid.ActorSys.C03_published_at_most_once
#print axioms Vivid.ActorSys.C09_terminated_not_paused
