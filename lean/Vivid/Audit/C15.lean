import Vivid.Props.C15
import Vivid.Tie.Registry
#print axioms Vivid.Transparency.wire_transmits
#print axioms Vivid.Transparency.C15_transparent
#print axioms Vivid.Transparency.C15_wire_has_schema
#print axioms Vivid.Transparency.C15_wire_roundtrip
#print axioms Vivid.Transparency.C15_pipe_result_roundtrip
#print axioms Vivid.Transparency.C15_not_transparent_as_found
#print axioms Vivid.Tie.registry_tie
#print axioms Vivid.Tie.registry_covered
#print axioms Vivid.Tie.schemas_are_registered
