import Vivid.Props.C09
import Vivid.Props.C09Global
import Vivid.Props.C09Graceful
#print axioms Vivid.ActorSys.C09_zombie_runs_nothing
#print axioms Vivid.ActorSys.C09_zombie_consumes_user_mail
#print axioms Vivid.ActorSys.C09_cleanup_unpauses
#print axioms Vivid.ActorSys.C09_zombie_transition_unpauses
#print axioms Vivid.ActorSys.C09_restart_unpauses
#print axioms Vivid.ActorSys.C09_resume_reaches_chain
#print axioms Vivid.ActorSys.C08_running_supervisor_decides
#print axioms Vivid.ActorSys.C09_stopping_supervisor_kills_failing_child
#print axioms Vivid.ActorSys.C09_unknown_decision_is_escalated
#print axioms Vivid.ActorSys.C09_terminated_not_paused
#print axioms Vivid.ActorSys.tell_own_eq
#print axioms Vivid.ActorSys.enqueue_userQ
#print axioms Vivid.ActorSys.tellAll_sys_userQ
#print axioms Vivid.ActorSys.tellAll_user_userQ
#print axioms Vivid.ActorSys.tell_up_userQ
#print axioms Vivid.ActorSys.directive_userQ
#print axioms Vivid.ActorSys.decide_userQ
#print axioms Vivid.ActorSys.C09_graceful_restart_equation
#print axioms Vivid.ActorSys.C09_graceful_restart_behind_backlog
#print axioms Vivid.ActorSys.C09_graceful_stop_behind_backlog
#print axioms Vivid.ActorSys.C09_immediate_restart_keeps_backlog
