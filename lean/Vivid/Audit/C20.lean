import Vivid.Props.C20
import Vivid.Props.C19C20Global
#print axioms Vivid.ActorSys.split_at_sep
#print axioms Vivid.ActorSys.C20_key_injective
#print axioms Vivid.ActorSys.C20_clear
#print axioms Vivid.ActorSys.C20_reschedule_keeps_one
#print axioms Vivid.ActorSys.M10_tables_invariant
#print axioms Vivid.ActorSys.C19_terminated_holds_no_subscription
#print axioms Vivid.ActorSys.C20_jobs_die_with_their_actor
#print axioms Vivid.ActorSys.C20_queued_job_is_recorded
