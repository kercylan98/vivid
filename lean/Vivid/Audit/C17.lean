import Vivid.Props.C17
#print axioms Vivid.View.newer_iff
#print axioms Vivid.View.obs_pick
#print axioms Vivid.View.members_mergeFrom
#print axioms Vivid.View.obs_eq
#print axioms Vivid.View.C17_merge_obs
#print axioms Vivid.View.C17_merge_swf
#print axioms Vivid.View.ltObs_irrefl
#print axioms Vivid.View.ltObs_trichotomy
#print axioms Vivid.View.ltObs_trans
#print axioms Vivid.View.ltObs_asymm
#print axioms Vivid.View.maxObs_comm
#print axioms Vivid.View.maxObs_idem
#print axioms Vivid.View.maxObs_assoc
#print axioms Vivid.View.leOpt_optMax_left
#print axioms Vivid.View.C17_comm
#print axioms Vivid.View.C17_assoc
#print axioms Vivid.View.C17_idem
#print axioms Vivid.View.C17_no_regress
#print axioms Vivid.View.C17_no_removal
#print axioms Vivid.View.C17_epoch_mono
#print axioms Vivid.View.C17_changed_sound_members
#print axioms Vivid.View.prune_keeps
#print axioms Vivid.View.recompute_get
#print axioms Vivid.View.C17_vv_no_regress
