import Vivid.Props.C02
import Vivid.Props.C02Order
import Vivid.Props.C02History
#print axioms Vivid.Fifo.run_no_nil
#print axioms Vivid.Ring.C02_ring_step
#print axioms Vivid.Ring.C02_ring_run
#print axioms Vivid.Ring.C02_ring_refines_fifo
#print axioms Vivid.Ring.C02_ring_no_nil
#print axioms Vivid.ActorSys.C02_system_first
#print axioms Vivid.ActorSys.C02_user_fifo
#print axioms Vivid.ActorSys.C02_paused_holds
#print axioms Vivid.ActorSys.C02_enqueue_tail
#print axioms Vivid.ActorSys.C02_kill_is_system
#print axioms Vivid.ActorSys.C02_poison_is_user
#print axioms Vivid.ActorSys.unstash_ctx
#print axioms Vivid.ActorSys.C02_unstash_order
#print axioms Vivid.ActorSys.deliver_eq_pick
#print axioms Vivid.ActorSys.deliverable_iff_pick
#print axioms Vivid.ActorSys.hinv_init
#print axioms Vivid.ActorSys.pick_sys
#print axioms Vivid.ActorSys.pick_user
#print axioms Vivid.ActorSys.hinv_step
#print axioms Vivid.ActorSys.hinv_run
#print axioms Vivid.ActorSys.C02_hist_user_fifo
#print axioms Vivid.ActorSys.C02_hist_sys_fifo
#print axioms Vivid.ActorSys.C02_hist_per_sender_prefix
#print axioms Vivid.ActorSys.C02_hist_poison_after_earlier
#print axioms Vivid.ActorSys.C02_hist_user_only_when_no_system_pending
#print axioms Vivid.ActorSys.C02_hist_paused_holds
#print axioms Vivid.ActorSys.unstash_uses_stashCnt
#print axioms Vivid.ActorSys.sinv_step
#print axioms Vivid.ActorSys.C02_hist_stash_fifo
#print axioms Vivid.ActorSys.C02_hist_unstashed_prefix
#print axioms Vivid.ActorSys.stashCnt_le
#print axioms Vivid.ActorSys.stashCnt_pos
#print axioms Vivid.ActorSys.C02_hist_unstash_count
