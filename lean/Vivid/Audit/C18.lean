import Vivid.Props.C18
import Vivid.Props.C18Converge
#print axioms Vivid.Gossip.handle_WF
#print axioms Vivid.Gossip.mem_fdTick
#print axioms Vivid.Gossip.C18_fd_keeps_fresh
#print axioms Vivid.Gossip.C18_fd_removes_stale
#print axioms Vivid.Gossip.C18_fd_quiet
#print axioms Vivid.Gossip.C18_recv_clears_suspicion
#print axioms Vivid.Gossip.C18_recv_marks_sender
#print axioms Vivid.Gossip.C18_no_readopt
#print axioms Vivid.Gossip.C18_recv_never_forgets
#print axioms Vivid.Gossip.C18_recv_learns
#print axioms Vivid.Gossip.leader_eq_min
#print axioms Vivid.Gossip.C18_same_leader
#print axioms Vivid.Gossip.C18_leader_unique
#print axioms Vivid.Gossip.step_node
#print axioms Vivid.Gossip.step_bag
#print axioms Vivid.Gossip.step_now
#print axioms Vivid.Gossip.step_T
#print axioms Vivid.Gossip.gone_iff
#print axioms Vivid.Gossip.old_touch
#print axioms Vivid.Gossip.gone_step
#print axioms Vivid.Gossip.absent_step
#print axioms Vivid.Gossip.C18_crashed_stays_absent
#print axioms Vivid.Gossip.C18_fd_drops_crashed
#print axioms Vivid.Gossip.C18_fdTickD_zero
#print axioms Vivid.Gossip.C18_fdD_keeps_within_confirmation
#print axioms Vivid.Gossip.RF.onePerAddr
#print axioms Vivid.Gossip.addMember_RF
#print axioms Vivid.Gossip.mergeView_RF
#print axioms Vivid.Gossip.refresh_RF
#print axioms Vivid.Gossip.touch_RF
#print axioms Vivid.Gossip.handle_knows
#print axioms Vivid.Gossip.handleAll_cons
#print axioms Vivid.Gossip.C18_fold_knows
#print axioms Vivid.Gossip.round_knows_all
#print axioms Vivid.Gossip.C18_round_same_members
