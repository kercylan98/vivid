import Vivid.Props.C10
#print axioms Vivid.Access.LockInv.mono
#print axioms Vivid.Access.lockInv_step
#print axioms Vivid.Access.lockInv_reach
#print axioms Vivid.Access.C10_lockset_sound
#print axioms Vivid.Access.okAcross_sound
#print axioms Vivid.Access.okPair_of_field_ne
#print axioms Vivid.Access.okPair_of_reads
#print axioms Vivid.Access.raceFree_of_fast
#print axioms Vivid.Access.C10_table_race_free
#print axioms Vivid.Access.C10_table_has_conflicts
