import Vivid.Props.C06
import Vivid.Props.C06Global
import Vivid.Props.M10Global
#print axioms Vivid.ActorSys.lookup_filter_ne
#print axioms Vivid.ActorSys.C06_cleanup_releases
#print axioms Vivid.ActorSys.C06_not_before_children
#print axioms Vivid.ActorSys.C06_kill_once
#print axioms Vivid.ActorSys.C06_restart_ignored_while_stopping
#print axioms Vivid.ActorSys.C09_zombie_restart_directive_unpauses
#print axioms Vivid.ActorSys.C06_kill_wins_over_restart
#print axioms Vivid.ActorSys.C06_child_death_removes_only_that_child
#print axioms Vivid.ActorSys.C06_poison_kill_wins_over_restart
#print axioms Vivid.ActorSys.C06_registry_invariant
#print axioms Vivid.ActorSys.C06_lookup_alive
#print axioms Vivid.ActorSys.C06_terminated_is_released
#print axioms Vivid.ActorSys.C06_paths_unique
#print axioms Vivid.ActorSys.M10_struct_invariant
#print axioms Vivid.ActorSys.C06_terminated_has_no_children
#print axioms Vivid.ActorSys.C05_restart_flag_only_while_stopping
