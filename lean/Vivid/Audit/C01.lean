import Vivid.Props.C01
#print axioms Vivid.Mailbox.C01_token
#print axioms Vivid.Mailbox.C01_single_handler
#print axioms Vivid.Mailbox.C01_no_nested_spawn
#print axioms Vivid.Mailbox.C01_conservation
#print axioms Vivid.Mailbox.C01_counters
#print axioms Vivid.Mailbox.Inv.quiescent
#print axioms Vivid.Mailbox.C01_no_lost_wakeup
#print axioms Vivid.Mailbox.C01_paused_holds
#print axioms Vivid.Mailbox.reach_runLabels
#print axioms Vivid.Mailbox.C01_no_spin
#print axioms Vivid.Mailbox.spin_prefix_any
#print axioms Vivid.Mailbox.spin_cycle
#print axioms Vivid.Mailbox.runLabels_append
#print axioms Vivid.Mailbox.C01_spin_witness_asis
#print axioms Vivid.Mailbox.spin_prefix_fixed
