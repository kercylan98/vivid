import Vivid.Props.C14
import Vivid.Props.C14SendLoop
import Vivid.Props.C14EndToEnd
#print axioms Vivid.Framing.frame_length
#print axioms Vivid.Framing.delivered_rx_short
#print axioms Vivid.Framing.rx_cut_inside
#print axioms Vivid.Framing.C14_cut_prefix
#print axioms Vivid.Framing.C14_resync
#print axioms Vivid.SendLoop.try_noconn
#print axioms Vivid.SendLoop.try_eq
#print axioms Vivid.SendLoop.try_ok
#print axioms Vivid.SendLoop.tell_eq
#print axioms Vivid.SendLoop.tell_ok
#print axioms Vivid.SendLoop.C14_try_fails_iff
#print axioms Vivid.SendLoop.C14_recovers
#print axioms Vivid.SendLoop.C14_next_after_dead
#print axioms Vivid.SendLoop.sent_cons
#print axioms Vivid.SendLoop.break_logs
#print axioms Vivid.SendLoop.step_interleave
#print axioms Vivid.SendLoop.partition_gen
#print axioms Vivid.SendLoop.C14_partition
#print axioms Vivid.SendLoop.Interleave.sublist_left
#print axioms Vivid.SendLoop.C14_received_subsequence
#print axioms Vivid.Framing.C14_link_subsequence
