import Vivid.Props.C04
#print axioms Vivid.Future.inv_init
#print axioms Vivid.Future.Inv.won_le
#print axioms Vivid.Future.Inv.closed_iff
#print axioms Vivid.Future.Inv.open_iff
#print axioms Vivid.Future.Inv.written_iff
#print axioms Vivid.Future.Inv.done_iff
#print axioms Vivid.Future.inv_step
#print axioms Vivid.Future.inv_reach
#print axioms Vivid.Future.C04_one_shot
#print axioms Vivid.Future.C04_result_final
#print axioms Vivid.Future.C04_no_registration_left
#print axioms Vivid.Future.forwarders_told_once
#print axioms Vivid.Future.C04_forwarders
#print axioms Vivid.Future.reach_runLabels
#print axioms Vivid.Future.C04_pipe_zero_witness
