import Vivid.Props.C05
import Vivid.Props.M10Global
#print axioms Vivid.ActorSys.C05_prelaunch_fail
#print axioms Vivid.ActorSys.C05_spawn_launch_first
#print axioms Vivid.ActorSys.C05_restart_launch_self
#print axioms Vivid.ActorSys.C05_restart_launch_parent_witness
#print axioms Vivid.ActorSys.C05_restart_hook_fails_zombie
#print axioms Vivid.ActorSys.M10_struct_invariant
#print axioms Vivid.ActorSys.C06_terminated_has_no_children
#print axioms Vivid.ActorSys.C05_restart_flag_only_while_stopping
