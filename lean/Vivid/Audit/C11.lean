import Vivid.Props.C11
#print axioms Vivid.Framing.rx_be
#print axioms Vivid.Framing.limit_lt
#print axioms Vivid.Framing.rx_frame
#print axioms Vivid.Framing.encodeAll_cons
#print axioms Vivid.Framing.rx_encodeAll
#print axioms Vivid.Framing.C11_reassembly
#print axioms Vivid.Framing.delivered_deliver
#print axioms Vivid.Framing.C11_delivered_exact
#print axioms Vivid.Framing.C11_per_sender_order
#print axioms Vivid.Framing.C11_readFull_chunking
