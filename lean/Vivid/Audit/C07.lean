import Vivid.Props.C07
#print axioms Vivid.SysFSM.C07_step_monotone
#print axioms Vivid.SysFSM.C07_one_way
#print axioms Vivid.SysFSM.countRet_le
#print axioms Vivid.SysFSM.C07_start_once
#print axioms Vivid.SysFSM.C07_stop_once
#print axioms Vivid.SysFSM.C07_after_stop
#print axioms Vivid.SysFSM.C07_cancel_is_stop
