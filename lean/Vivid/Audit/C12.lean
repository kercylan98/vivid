import Vivid.Props.C12
import Vivid.Tie.Registry
#print axioms Vivid.Codec.C12_prim_u32
#print axioms Vivid.Codec.C12_prim_string
#print axioms Vivid.Codec.encMessage_eq_some
#print axioms Vivid.Codec.C12_message_roundtrip
#print axioms Vivid.Codec.C12_envelope_roundtrip
#print axioms Vivid.Tie.registry_tie
#print axioms Vivid.Tie.registry_covered
#print axioms Vivid.Tie.schemas_are_registered
