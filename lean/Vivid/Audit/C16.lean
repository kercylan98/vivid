import Vivid.Props.C16
import Vivid.Props.C16Wire
import Vivid.Tie.VVConstants
#print axioms Vivid.VV.C16_compare_spec
#print axioms Vivid.VV.leq_refl
#print axioms Vivid.VV.leq_trans
#print axioms Vivid.VV.C16_refl
#print axioms Vivid.VV.C16_antisymm
#print axioms Vivid.VV.C16_before_asymm
#print axioms Vivid.VV.C16_converse
#print axioms Vivid.VV.C16_equal_symm
#print axioms Vivid.VV.C16_concurrent_symm
#print axioms Vivid.VV.le_iff_leq
#print axioms Vivid.VV.C16_trans
#print axioms Vivid.VV.C16_trans_strict
#print axioms Vivid.VV.C16_trans_strict_right
#print axioms Vivid.VV.C16_merge_get
#print axioms Vivid.VV.C16_merge_wf
#print axioms Vivid.VV.C16_merge_comm
#print axioms Vivid.VV.C16_merge_assoc
#print axioms Vivid.VV.C16_merge_idem
#print axioms Vivid.VV.C16_merge_upper
#print axioms Vivid.VV.C16_merge_lub
#print axioms Vivid.VV.increment_ok_iff
#print axioms Vivid.VV.C16_increment_spec
#print axioms Vivid.VV.C16_increment_wf
#print axioms Vivid.VV.C16_increment_after
#print axioms Vivid.VV.C16_increment_total
#print axioms Vivid.VVWire.unwire_wireV
#print axioms Vivid.VVWire.C16_wire_roundtrip
#print axioms Vivid.VVWire.vlen_wireV
#print axioms Vivid.VVWire.encEntry_isSome
#print axioms Vivid.VVWire.encList_isSome
#print axioms Vivid.VVWire.encodeVV_isSome
#print axioms Vivid.VVWire.C16_wire_representable
#print axioms Vivid.VVWire.C16_survives_serialisation
#print axioms Vivid.VVWire.C16_wire_counter_guard
#print axioms Vivid.Tie.vv_maxCounter
#print axioms Vivid.Tie.vv_maxEntries
#print axioms Vivid.Tie.vv_maxNodeLen
