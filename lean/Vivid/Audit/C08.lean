import Vivid.Props.C08
import Vivid.Props.C08Frame
#print axioms Vivid.ActorSys.C08_targets
#print axioms Vivid.ActorSys.C08_failed_frame
#print axioms Vivid.ActorSys.C08_no_supervision_on_kill
#print axioms Vivid.ActorSys.C08_no_supervision_while_stopping
#print axioms Vivid.ActorSys.tellAll_other
#print axioms Vivid.ActorSys.C08_supervise_only_sends
#print axioms Vivid.ActorSys.fr_say
#print axioms Vivid.ActorSys.tell_up_other
#print axioms Vivid.ActorSys.directive_other
#print axioms Vivid.ActorSys.C08_supervise_touches_only_targets
