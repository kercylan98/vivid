import Vivid.Props.C13
import Vivid.Tie.Registry
#print axioms Vivid.Codec.C13_decode_total
#print axioms Vivid.Codec.C13_decode_alloc
#print axioms Vivid.Codec.C13_registered_capped
#print axioms Vivid.Codec.C13_view_uncapped_witness
#print axioms Vivid.Codec.C13_reflective_capped
#print axioms Vivid.Codec.C13_reflective_presized_witness
#print axioms Vivid.Codec.C13_failed_decode_keeps_destination
#print axioms Vivid.Tie.registry_tie
#print axioms Vivid.Tie.registry_covered
#print axioms Vivid.Tie.schemas_are_registered
