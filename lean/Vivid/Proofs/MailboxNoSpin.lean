import Vivid.Proofs.Mailbox

/-!
No-spin argument for the repaired re-arm decision (`fixed = true`); the spin cycle of the code as
found is in `Props/C01.lean`.

`Idle s`: only processing goroutines inside their loop are left (no call in flight, no handler
running, nothing popped and not yet handled) and the queues hold nothing the mailbox is allowed
to process (`sq = 0`, and `paused` or `uq = 0`).  From such a state every step that does not start
a new call strictly lowers the potential `phi`, so the processing goroutines leave after boundedly
many steps.
-/
namespace Vivid.Mailbox

def isNew : Label → Bool
  | .newEnqU | .newEnqS | .newPause | .newResume => true
  | _ => false

/-- 1 on every program point that is *not* part of the idle processing loop. -/
def wZ : Pc → Nat
  | .cStart => 0
  | .cLoadP => 0
  | .cPopU => 0
  | .cStore => 0
  | .cLoadN => 0
  | .cLoadSyT => 0
  | .cLoadSyF => 0
  | .cLoadPz => 0
  | .cReCas => 0
  | _ => 1

def zsum (c : Pc → Nat) : Nat := wsum wZ c allPcs

/-- Potential weights; `z = true` is the case `uq = 0`, `z = false` the case `uq > 0` (hence paused). -/
def wPhi : Bool → Pc → Nat
  | true, .cLoadSyT => 12
  | true, .cLoadPz => 11
  | true, .cReCas => 10
  | true, .cStart => 9
  | true, .cLoadP => 8
  | true, .cPopU => 7
  | true, .cStore => 6
  | true, .cLoadN => 5
  | true, .cLoadSyF => 4
  | true, _ => 0
  | false, .cReCas => 10
  | false, .cStart => 9
  | false, .cLoadP => 8
  | false, .cPopU => 7
  | false, .cStore => 6
  | false, .cLoadN => 5
  | false, .cLoadSyT => 4
  | false, .cLoadSyF => 4
  | false, .cLoadPz => 3
  | false, _ => 0

def phi (z : Bool) (c : Pc → Nat) : Nat := wsum (wPhi z) c allPcs

structure Idle (s : St) : Prop where
  zs : zsum s.c = 0
  sq0 : s.sq = 0
  np : s.paused = true ∨ s.uq = 0
  -- a processing goroutine that passed the pause check before the `Pause` is at `cPopU`: it would still pop
  popu : s.c .cPopU = 0 ∨ s.uq = 0

theorem Idle.counters {s : St} (hi : Idle s) (h : Inv s) : s.num = s.uq ∧ s.sys = 0 := by
  have hU := h.cntU; have hS := h.cntS
  rw [wsum_eq_zero hi.zs (p := .cDecU) Nat.one_pos, wsum_eq_zero hi.zs (p := .eU1) Nat.one_pos,
    wsum_eq_zero hi.zs (p := .hU1) Nat.one_pos] at hU
  rw [wsum_eq_zero hi.zs (p := .cDecS) Nat.one_pos, wsum_eq_zero hi.zs (p := .eS1) Nat.one_pos,
    wsum_eq_zero hi.zs (p := .hS1) Nat.one_pos, hi.sq0] at hS
  omega

/- Every step from an idle state is a step of the loop `cStart → cLoadP → (cPopU →) cStore → cLoadN →
cLoadSy* → (cLoadPz →) cReCas → cStart` or out of it: the thread stays among the program points of
weight `wZ = 0` and goes to one of smaller weight `wPhi z`.  The two steps that would go up,
`loadNPos` with an empty queue and `loadPzRun` with a non-empty one, are not enabled. -/
theorem idle_step {l : Label} {z : Bool} {s s' : St} (hi : Idle s) (hinv : Inv s) (hl : isNew l = false)
    (hz : decide (s.uq = 0) = z) (hf : fire true l s = some s') :
    Idle s' ∧ s'.uq = s.uq ∧ phi z s'.c < phi z s.c := by
  cases l <;> first | obtain ⟨⟨hg, hg'⟩, rfl⟩ := fire_some hf | obtain ⟨hg, rfl⟩ := fire_some hf | cases hl
  case popSNone | loadPPaused | store | loadNNon | loadSyTNon | reWin =>
    exact ⟨{ hi with zs := wsum_mv_eq hi.zs hg rfl }, rfl, wsum_mv_lt hg (by cases z <;> decide)⟩
  case loadSyFNon | loadPzPaused | reLose =>
    exact ⟨{ hi with zs := wsum_dec_eq hi.zs hg rfl }, rfl, wsum_dec_lt hg (by cases z <;> decide)⟩
  case popUNone =>
    exact ⟨{ hi with zs := wsum_mv_eq hi.zs hg rfl, popu := .inr hg' }, rfl,
      wsum_mv_lt hg (by cases z <;> decide)⟩
  case loadPRun =>
    exact ⟨{ hi with zs := wsum_mv_eq hi.zs hg rfl, popu := .inr (hi.np.resolve_left (not_both · hg')) },
      rfl, wsum_mv_lt hg (by cases z <;> decide)⟩
  case loadNPos =>
    cases z
    · exact ⟨{ hi with zs := wsum_mv_eq hi.zs hg rfl }, rfl, wsum_mv_lt hg (by decide)⟩
    · have := (hi.counters hinv).1; have := of_decide_eq_true hz; omega
  case loadPzRun =>
    cases z
    · exact absurd (hi.np.resolve_left (not_both · hg')) (of_decide_eq_false hz)
    · exact ⟨{ hi with zs := wsum_mv_eq hi.zs hg rfl }, rfl, wsum_mv_lt hg (by decide)⟩
  case loadSyTPos | loadSyFPos =>
    have := (hi.counters hinv).2; omega
  case popSSome =>
    have := hi.sq0; omega
  case popUSome =>
    have := hi.popu; omega
  all_goals exact (Nat.ne_of_gt hg (wsum_eq_zero hi.zs Nat.one_pos)).elim

end Vivid.Mailbox
