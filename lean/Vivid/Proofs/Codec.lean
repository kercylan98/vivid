import Vivid.Model.Codec

/-! Round-trip of the generic codec.

The reader is a chain of fixed-width fields (`decNat`) and of *sequencing* steps (`seq`: a pair,
and one more element of a list, are the same step); the writer glues the matching encodings
(`app2`).  The round trip is proved once for a field (`decNat_be`) and once for a sequencing step
(`ReadsBack.seq`); `roundtripA` then only says which of the two each schema constructor is. -/
namespace Vivid.Codec

theorem be_length (k n : Nat) : (be k n).length = k := by
  induction k with
  | zero => rfl
  | succ k ih => simp [be, ih]

theorem unbe_append (a b : Bytes) (acc : Nat) : unbe (a ++ b) acc = unbe b (unbe a acc) := by
  induction a generalizing acc with
  | nil => rfl
  | cons h t ih => simp [unbe, ih]

/-- `be` is defined from the most significant byte; from the other end it is division by 256,
which is the end `unbe` accumulates at. -/
theorem be_snoc (k n : Nat) : be (k + 1) n = be k (n / 256) ++ [n % 256] := by
  induction k with
  | zero => simp [be]
  | succ k ih =>
    show _ :: be (k + 1) n = (_ :: be k (n / 256)) ++ _
    rw [ih, Nat.div_div_eq_div_mul, ← Nat.pow_succ']; rfl

theorem unbe_be (k : Nat) : ∀ (n acc : Nat), n < 256 ^ k → unbe (be k n) acc = acc * 256 ^ k + n := by
  induction k with
  | zero => intro n acc h; simp at h; simp [h, be, unbe]
  | succ k ih =>
    intro n acc h
    rw [Nat.pow_succ] at h ⊢
    rw [be_snoc, unbe_append, ih _ _ (Nat.div_lt_of_lt_mul (Nat.mul_comm .. ▸ h)), unbe, unbe,
      Nat.add_mul, Nat.mul_assoc, Nat.add_assoc, Nat.div_add_mod']

theorem twos_roundtrip {bits : Nat} (hb : 0 < bits) {z : Int} {n : Nat} (h : toTwos bits z = some n) :
    n < 2 ^ bits ∧ fromTwos bits n = z := by
  obtain ⟨b, rfl⟩ : ∃ b, bits = b + 1 := ⟨bits - 1, (Nat.sub_add_cancel hb).symm⟩
  simp only [toTwos, fromTwos, Nat.add_sub_cancel, Nat.pow_succ] at h ⊢
  split at h <;> split at h <;> cases h
  · next hz hlt => exact ⟨by omega, by rw [if_pos hlt]; exact Int.toNat_of_nonneg hz⟩
  · omega

variable {k x : Nat} {bs h r : Bytes}

theorem take_append (a r : Bytes) : take a.length (a ++ r) = .ok (a, r) := by
  simp [take]

theorem take_ok (e : take k bs = .ok (h, r)) : bs = h ++ r ∧ h.length = k := by
  unfold take at e
  split at e
  · next hk => cases e; exact ⟨(List.take_append_drop k bs).symm, List.length_take_of_le hk⟩
  · cases e

theorem decNat_be (k n : Nat) (r : Bytes) (h : n < 256 ^ k) : decNat k (be k n ++ r) = .ok (n, r) := by
  have := take_append (be k n) r
  rw [be_length] at this
  simp [decNat, this, unbe_be k n 0 h]

theorem decNat_ok (e : decNat k bs = .ok (x, r)) :
    ∃ h, bs = h ++ r ∧ h.length = k := by
  unfold decNat at e
  split at e
  · next ht => cases e; exact ⟨_, take_ok ht⟩
  · cases e

abbrev Rd := Bytes → Res ((V × Nat) × Bytes)

def seq (k : V → V → V) (f g : Rd) : Rd := fun bs =>
  match f bs with
  | .err => .err
  | .ok ((x, a1), r) =>
    match g r with
    | .err => .err
    | .ok ((y, a2), r') => .ok ((k x y, a1 + a2), r')

theorem decA_pair (a b : Ty) : decA (.pair a b) = seq .pair (decA a) (decA b) := rfl
theorem decN_succ (f : Rd) (n : Nat) : decN f (n + 1) = seq .cons f (decN f n) := rfl

/-- The `match` in `enc` of a pair, in `encList` of a `cons` and in `encEnvelope`. -/
def app2 (x y : Option Bytes) : Option Bytes :=
  match x, y with
  | some p, some q => some (p ++ q)
  | _, _ => none

theorem enc_pair (a b : Ty) (x y : V) : enc (.pair a b) (.pair x y) = app2 (enc a x) (enc b y) := rfl
theorem encList_cons (f : V → Option Bytes) (h t : V) : encList f (.cons h t) = app2 (f h) (encList f t) := rfl

theorem app2_eq_some {x y : Option Bytes} {bs : Bytes} (h : app2 x y = some bs) :
    ∃ p q, x = some p ∧ y = some q ∧ bs = p ++ q :=
  match x, y, h with
  | some p, some q, h => ⟨p, q, rfl, rfl, (Option.some.inj h).symm⟩

theorem enc_list_eq (cap : Option Nat) (pre : Bool) (a : Ty) (v : V) :
    enc (.list cap pre a) v =
      if vlen v < 2 ^ 32 ∧ capOk cap (vlen v) = true then (encList (enc a) v).map (fun bs => be 4 (vlen v) ++ bs)
      else Option.none :=
  rfl

def ReadsBack (e : Option Bytes) (g : Rd) (v : V) : Prop :=
  ∀ bs r, e = some bs → ∃ al, g (bs ++ r) = .ok ((v, al), r)

theorem ReadsBack.none {g : Rd} {v : V} : ReadsBack none g v :=
  fun _ _ h => nomatch h

theorem ReadsBack.seq {k : V → V → V} {ex ey : Option Bytes} {f g : Rd} {x y : V}
    (hf : ReadsBack ex f x) (hg : ReadsBack ey g y) : ReadsBack (app2 ex ey) (seq k f g) (k x y) := by
  intro bs r h
  obtain ⟨p, q, hp, hq, rfl⟩ := app2_eq_some h
  obtain ⟨a1, h1⟩ := hf p (q ++ r) hp
  obtain ⟨a2, h2⟩ := hg q r hq
  exact ⟨a1 + a2, by simp only [Codec.seq, List.append_assoc, h1, h2]⟩

theorem decN_encList {f : V → Option Bytes} {g : Rd} (hfg : ∀ v, ReadsBack (f v) g v) :
    ∀ v, ReadsBack (encList f v) (decN g (vlen v)) v
  | .cons h t => encList_cons f h t ▸ decN_succ g (vlen t) ▸ (hfg h).seq (decN_encList hfg t)
  | .nil => fun _ _ e => by cases e; exact ⟨0, rfl⟩
  | .unit | .n _ | .i _ | .b _ | .bytes _ | .pair _ _ | .none | .some _ => .none

theorem encNat_eq_some (h : encNat k x = some bs) : x < 256 ^ k ∧ be k x = bs := by
  unfold encNat at h
  split at h
  · next hx => exact ⟨hx, Option.some.inj h⟩
  · cases h

/- Unless `v` has the shape `t` asks for, `enc t v` is `none` by computation: `ReadsBack.none`. -/
theorem roundtripA (t : Ty) : ∀ v, ReadsBack (enc t v) (decA t) v := by
  induction t with
  | unit =>
    intro v
    cases v with
    | unit => intro bs r h; cases h; exact ⟨0, rfl⟩
    | _ => exact .none
  | u8 | u16 | u32 | u64 =>
    intro v
    cases v with
    | n x =>
      intro bs r h
      obtain ⟨hx, rfl⟩ := encNat_eq_some h
      exact ⟨0, by simp only [decA, decNat_be _ _ r hx]⟩
    | _ => exact .none
  | i32 | i64 =>
    intro v
    cases v with
    | i z =>
      intro bs r h
      obtain ⟨n, hn, rfl⟩ := Option.map_eq_some_iff.1 h
      have ⟨h1, h2⟩ := twos_roundtrip (by decide) hn
      exact ⟨0, by simp [decA, decNat_be, h1, h2]⟩
    | _ => exact .none
  | bool =>
    intro v
    cases v with
    | b x => intro bs r h; cases h; cases x <;> exact ⟨0, rfl⟩
    | _ => exact .none
  | bytes =>
    intro v
    cases v with
    | bytes d =>
      intro bs r h
      simp only [enc] at h
      split at h <;> cases h
      next hd => exact ⟨0, by simp only [decA, List.append_assoc, decNat_be 4 _ _ hd.1, take_append]⟩
    | _ => exact .none
  | pair a b iha ihb =>
    intro v
    cases v with
    | pair x y => exact enc_pair a b x y ▸ decA_pair a b ▸ (iha x).seq (ihb y)
    | _ => exact .none
  | list cap pre a iha =>
    intro v bs r h
    rw [enc_list_eq] at h
    split at h
    · next hc =>
      obtain ⟨bs', he, rfl⟩ := Option.map_eq_some_iff.1 h
      obtain ⟨al, hd⟩ := decN_encList iha v bs' r he
      refine ⟨al + (if pre then vlen v else 0), ?_⟩
      simp only [decA, List.append_assoc, decNat_be 4 _ _ hc.1, hc.2, if_true, hd]
    · cases h
  | opt32 a iha =>
    intro v
    cases v with
    | none => intro bs r h; cases h; exact ⟨0, by simp [decA, decNat_be 4 0 r (by decide)]⟩
    | some x =>
      intro bs r h
      obtain ⟨bs', hb, rfl⟩ := Option.map_eq_some_iff.1 h
      obtain ⟨al, hd⟩ := iha x bs' r hb
      exact ⟨al, by simp [decA, decNat_be 4 1 _ (by decide), hd]⟩
    | _ => exact .none
  | opt8 a iha =>
    intro v
    cases v with
    | none => intro bs r h; cases h; exact ⟨0, rfl⟩
    | some x =>
      intro bs r h
      obtain ⟨bs', hb, rfl⟩ := Option.map_eq_some_iff.1 h
      obtain ⟨al, hd⟩ := iha x bs' r hb
      exact ⟨al, by simp [decA, decNat, take, unbe, hd]⟩
    | _ => exact .none
  | chk c a iha =>
    intro v bs r h
    simp only [enc] at h
    split at h
    · next hc =>
      obtain ⟨al, hd⟩ := iha v bs r h
      exact ⟨al, by simp only [decA, hd, hc, if_true]⟩
    · cases h

theorem roundtrip (t : Ty) (v : V) (bs r : Bytes) (h : enc t v = some bs) :
    dec t (bs ++ r) = .ok (v, r) := by
  obtain ⟨al, hd⟩ := roundtripA t v bs r h
  simp [dec, hd]

end Vivid.Codec
