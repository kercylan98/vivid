import Vivid.Proofs.ActorSys

/-! What the operations of M10 leave alone.

`Agree π s s'`: the two states have the same contexts as far as the projection `π` can see; each invariant has such a
footprint.  `Frame s s'`: only mail and bookkeeping moved — the tables and the whole lifecycle skeleton agree; this is what
`say`, `enqueue`, `tell` and everything built from them do.  The `_shape` lemmas say of each composite operation which
changes it makes beyond that, and in which order. -/
namespace Vivid.ActorSys

theorem upd_congr {s : Sys} {c : Cid} {f g : Ctx → Ctx} (h : f (s.ctx c) = g (s.ctx c)) : upd s c f = upd s c g := by
  unfold upd; rw [h]

theorem upd_id (s : Sys) (c : Cid) : upd s c id = s := by
  unfold upd
  have : (fun x => if x = c then id (s.ctx c) else s.ctx x) = s.ctx := by funext x; split <;> simp [*]
  rw [this]

theorem upd_ite (s : Sys) (c : Cid) (p : Ctx → Prop) [DecidablePred p] (f : Ctx → Ctx) :
    upd s c (fun x => if p x then f x else x) = if p (s.ctx c) then upd s c f else s := by
  split
  · exact upd_congr (if_pos ‹_›)
  · exact (upd_congr (g := id) (if_neg ‹_›)).trans (upd_id s c)

def Agree {α : Type} (π : Ctx → α) (s s' : Sys) : Prop := s'.n = s.n ∧ ∀ c, π (s'.ctx c) = π (s.ctx c)

section
variable {α β : Type} {π : Ctx → α}

theorem Agree.refl (π : Ctx → α) (s : Sys) : Agree π s s := ⟨rfl, fun _ => rfl⟩

theorem Agree.trans {a b c : Sys} (h1 : Agree π a b) (h2 : Agree π b c) : Agree π a c :=
  ⟨h2.1.trans h1.1, fun x => (h2.2 x).trans (h1.2 x)⟩

theorem Agree.mono {ρ : Ctx → β} {s s' : Sys} (h : Agree π s s') (hρ : ∀ x y, π x = π y → ρ x = ρ y) : Agree ρ s s' :=
  ⟨h.1, fun c => hρ _ _ (h.2 c)⟩

theorem agree_of_eq {s s' : Sys} (hn : s'.n = s.n := by rfl) (hc : s'.ctx = s.ctx := by rfl) :
    Agree π s s' := ⟨hn, fun c => by rw [hc]⟩

theorem agree_upd (s : Sys) (c : Cid) (f : Ctx → Ctx) (hf : ∀ x, π (f x) = π x := by intro; rfl) :
    Agree π s (upd s c f) := by
  refine ⟨rfl, fun d => ?_⟩
  by_cases h : d = c
  · subst h; rw [upd_ctx_self]; exact hf _
  · rw [upd_ctx_other h]

/-- `schedule`, the `cancel` action (`agree_jobs`) and `clearJobs` change the `jobs` field and the job table only. -/
theorem agree_schedule (s : Sys) (c : Cid) (ref : String) (hπ : ∀ x j, π { x with jobs := j } = π x := by intro _ _; rfl) :
    Agree π s (schedule s c ref) := by
  have h : Agree π s (upd s c fun x => { x with jobs := (ref, jobKey (s.ctx c).path ref) :: x.jobs.filter fun e => e.1 ≠ ref }) :=
    agree_upd s c _ fun _ => hπ _ _
  exact iteInduction (motive := Agree π s) (fun _ => h) fun _ => h.trans agree_of_eq

theorem agree_jobs (s : Sys) (c : Cid) (t : List (String × Cid)) (g : List (String × String) → List (String × String))
    (hπ : ∀ x j, π { x with jobs := j } = π x := by intro _ _; rfl) :
    Agree π s (upd { s with jobTable := t } c fun x => { x with jobs := g x.jobs }) :=
  (agree_of_eq (s' := { s with jobTable := t })).trans (agree_upd _ c _ fun _ => hπ _ _)

theorem agree_clearJobs (s : Sys) (c : Cid) (hπ : ∀ x j, π { x with jobs := j } = π x := by intro _ _; rfl) :
    Agree π s (clearJobs s c) :=
  agree_jobs s c _ (fun _ => []) hπ

end

/-- The lifecycle skeleton of a context: all of it except mail (queues, stash), watchers, and what only behaviours and
supervision bookkeeping read.  An invariant that reads some of these fields only gets its footprint from `Frame.agree`. -/
structure Skel where
  path : Path
  parent : Option Cid
  state : St
  zombie : Bool
  restarting : Option Bool
  children : List Cid
  jobs : List (String × String)
  paused : Bool

def skel (x : Ctx) : Skel :=
  { path := x.path, parent := x.parent, state := x.state, zombie := x.zombie, restarting := x.restarting,
    children := x.children, jobs := x.jobs, paused := x.paused }

structure Frame (s s' : Sys) : Prop where
  ctx : Agree skel s s'
  registry : s'.registry = s.registry
  subs : s'.subs = s.subs
  jobTable : s'.jobTable = s.jobTable

theorem Frame.n {s s' : Sys} (h : Frame s s') : s'.n = s.n := h.ctx.1

theorem Frame.refl (s : Sys) : Frame s s := ⟨.refl _ s, rfl, rfl, rfl⟩

theorem Frame.trans {a b c : Sys} (h1 : Frame a b) (h2 : Frame b c) : Frame a c :=
  ⟨h1.ctx.trans h2.ctx, h2.registry.trans h1.registry, h2.subs.trans h1.subs, h2.jobTable.trans h1.jobTable⟩

theorem Frame.agree {α : Type} {π : Ctx → α} {s s' : Sys} (h : Frame s s') (hπ : ∀ x y, skel x = skel y → π x = π y) :
    Agree π s s' := h.ctx.mono hπ

theorem frame_of_eq {s s' : Sys} (hn : s'.n = s.n := by rfl) (hc : s'.ctx = s.ctx := by rfl)
    (hr : s'.registry = s.registry := by rfl) (hs : s'.subs = s.subs := by rfl)
    (hj : s'.jobTable = s.jobTable := by rfl) : Frame s s' :=
  ⟨agree_of_eq hn hc, hr, hs, hj⟩

theorem frame_upd (s : Sys) (c : Cid) (f : Ctx → Ctx) (hf : ∀ x, skel (f x) = skel x := by intro; rfl) :
    Frame s (upd s c f) := ⟨agree_upd s c f hf, rfl, rfl, rfl⟩

theorem frame_ite {s a b : Sys} {p : Prop} [Decidable p] (h1 : Frame s a) (h2 : Frame s b) :
    Frame s (if p then a else b) := by
  split <;> assumption

theorem frame_say {s : Sys} {e : String} : Frame s (say s e) := frame_of_eq

theorem frame_enqueue {s : Sys} {c : Cid} {e : Env} : Frame s (enqueue s c e) :=
  frame_upd s c (push e) fun x => by unfold push; split <;> rfl

theorem frame_tell {s : Sys} {sys : Bool} {sender : Option Cid} {t : Target} {m : Msg} :
    Frame s (tell s sys sender t m) := by
  obtain ⟨refs, nx, c, e, h⟩ := tell_eq s sys sender t m
  rw [h]
  exact (frame_of_eq (s' := { s with refs := refs, nextEnv := nx })).trans frame_enqueue

theorem frame_tellAll {ts : List Cid} {s : Sys} {sys : Bool} {sender : Option Cid} {m : Msg} :
    Frame s (tellAll s sys sender ts m) :=
  List.foldlRecOn (motive := Frame s) ts _ (.refl s) fun x h t _ => h.trans frame_tell

theorem frame_foldl_enqueue (l : List Env) (s : Sys) (self : Cid) :
    Frame s (l.foldl (fun acc e => enqueue acc self e) s) :=
  List.foldlRecOn (motive := Frame s) l _ (.refl s) fun x h e _ => h.trans frame_enqueue

theorem frame_popMail (s : Sys) (c : Cid) : Frame s (popMail s c) := by
  unfold popMail
  split
  · exact frame_upd s c _
  · split
    · exact frame_upd s c _
    · exact .refl s

theorem frame_guardBehave (s : Sys) (m : Msg) : Frame s (guardBehave s m) := by
  unfold guardBehave
  split
  · exact frame_ite frame_of_eq (.refl s)
  · exact (frame_of_eq (s' := { s with deadLetters := _ })).trans frame_say
  · exact .refl s

theorem actorOf_shape (s : Sys) (parent : Cid) (name : String) (script strat hooks : Nat) (ds : List Nat) :
    (∃ e, actorOf s parent name script strat hooks ds = say s e) ∨
    ((s.ctx parent).state ≠ .killed ∧ s.registry.lookup (joinPath (s.ctx parent).path name) = none ∧
      Frame (upd (create s (newCtx (joinPath (s.ctx parent).path name) name parent script strat hooks ds)) parent fun x =>
          { x with children := x.children.filter (fun k => (s.ctx k).path ≠ joinPath (s.ctx parent).path name) ++ [s.n] })
        (actorOf s parent name script strat hooks ds)) := by
  unfold actorOf
  dsimp only
  by_cases hk : (s.ctx parent).state = .killed
  · rw [if_pos hk]; exact .inl ⟨_, rfl⟩
  rw [if_neg hk]
  by_cases hh : hooks % 32 ≥ 16
  · rw [if_pos hh]; exact .inl ⟨_, rfl⟩
  rw [if_neg hh]
  cases hl : s.registry.lookup (joinPath (s.ctx parent).path name) with
  | some c => exact .inl ⟨_, rfl⟩
  | none =>
    refine .inr ⟨hk, rfl, ?_⟩
    exact frame_ite ((frame_tell.trans frame_say).trans frame_tell)
      (frame_tell.trans frame_say)

theorem failed_shape (s : Sys) (self : Cid) : Frame (upd s self fun x => { x with paused := true }) (failed s self) :=
  frame_tell.trans frame_say

theorem cleanup_shape (s : Sys) (self : Cid) :
    ∃ s1, Frame (unregister { s with subs := s.subs.filter fun e => e.2.1 ≠ (s.ctx self).path } (s.ctx self).path) s1 ∧
      cleanup s self = upd s1 self fun x => { x with paused := false } := by
  unfold cleanup
  dsimp only
  split
  · exact ⟨_, (frame_tellAll.trans frame_tell).trans frame_say, rfl⟩
  · exact ⟨_, frame_tellAll.trans frame_say, rfl⟩

theorem cleanup_post (s : Sys) (self : Cid) :
    (∀ e ∈ (cleanup s self).registry, e.1 ≠ ((cleanup s self).ctx self).path) ∧
    (∀ e ∈ (cleanup s self).subs, e.2.1 ≠ ((cleanup s self).ctx self).path) ∧
    ((cleanup s self).ctx self).paused = false := by
  obtain ⟨s1, hf, h⟩ := cleanup_shape s self
  rw [h, upd_ctx_self]
  show (∀ e ∈ s1.registry, e.1 ≠ (s1.ctx self).path) ∧ (∀ e ∈ s1.subs, e.2.1 ≠ (s1.ctx self).path) ∧ _
  rw [hf.registry, hf.subs, show (s1.ctx self).path = (s.ctx self).path from congrArg Skel.path (hf.ctx.2 self)]
  exact ⟨fun e he => of_decide_eq_true (List.mem_filter.1 he).2, fun e he => of_decide_eq_true (List.mem_filter.1 he).2, rfl⟩

/-- A directive is sent, not applied: `directive` moves mail only, except that an escalation pauses the supervisor. -/
theorem directive_shape (s : Sys) (self : Cid) (decision : Nat) (targets allT : List Cid)
    (chain' : List (Cid × List Cid)) (up : Target) :
    Frame s (directive s self decision targets allT chain' up) ∨
    ∃ s1, Frame s s1 ∧
      Frame (upd s1 self fun x => { x with paused := true }) (directive s self decision targets allT chain' up) := by
  have h2 : Frame s (tellAll s true (some self) targets .cmdPause) := frame_tellAll
  exact directive_cases (P := fun y => Frame s y ∨ ∃ s1, Frame s s1 ∧ Frame (upd s1 self fun x => { x with paused := true }) y)
    s self decision targets allT chain' up
    (fun _ _ => .inl (h2.trans frame_tellAll))
    (fun _ _ => .inl ((h2.trans frame_tellAll).trans frame_tellAll))
    (fun _ => .inl (h2.trans frame_tellAll))
    (fun _ => .inr ⟨_, h2, frame_tell⟩)

theorem onSuperviseDecide_shape (s : Sys) (self : Cid) (chain : List (Cid × List Cid)) :
    Frame s (onSuperviseDecide s self chain) ∨
    ∃ s1, Frame s s1 ∧ Frame (upd s1 self fun x => { x with paused := true }) (onSuperviseDecide s self chain) := by
  rw [onSuperviseDecide_eq]
  have hf0 : Frame s (say (if (s.ctx self).strat = 0 then s else upd s self fun x => { x with decIdx := x.decIdx + 1 })
      s!"decide:{self}:{failedOf self chain}:{decisionOf (s.ctx self)}") :=
    (frame_ite (.refl s) (frame_upd s self _)).trans frame_say
  rcases directive_shape _ self (decisionOf (s.ctx self)) _ _ _ (upTarget (s.ctx self)) with hf | ⟨s1, hf1, hf2⟩
  · exact .inl (hf0.trans hf)
  · exact .inr ⟨s1, hf0.trans hf1, hf2⟩

end Vivid.ActorSys
