import Vivid.Proofs.ActorSysRule

/-! The registry invariant `RegInv` of M10 as a handler invariant.  Property theorems: `Props/C06Global.lean`. -/
namespace Vivid.ActorSys

def SameCore (s s' : Sys) : Prop :=
  s'.registry = s.registry ∧ s'.n = s.n ∧
  ∀ c, (s'.ctx c).path = (s.ctx c).path ∧ (s'.ctx c).state = (s.ctx c).state ∧
       (s'.ctx c).zombie = (s.ctx c).zombie

def core (x : Ctx) : Path × St × Bool := (x.path, x.state, x.zombie)

theorem sameCore_of_agree {s s' : Sys} (h : Agree core s s') (hr : s'.registry = s.registry := by rfl) : SameCore s s' :=
  ⟨hr, h.1, fun c => ⟨congrArg (·.1) (h.2 c), congrArg (·.2.1) (h.2 c), congrArg (·.2.2) (h.2 c)⟩⟩

theorem Frame.sameCore {s s' : Sys} (h : Frame s s') : SameCore s s' :=
  sameCore_of_agree (h.agree fun _ _ h => congrArg (fun k : Skel => (k.path, k.state, k.zombie)) h) h.registry

theorem SameCore.trans {a b c : Sys} (h1 : SameCore a b) (h2 : SameCore b c) : SameCore a c :=
  ⟨h2.1.trans h1.1, h2.2.1.trans h1.2.1, fun x =>
    ⟨(h2.2.2 x).1.trans (h1.2.2 x).1, (h2.2.2 x).2.1.trans (h1.2.2 x).2.1, (h2.2.2 x).2.2.trans (h1.2.2 x).2.2⟩⟩

theorem sc_say {a x : Sys} (e : String) (h : SameCore a x) : SameCore a (say x e) := h.trans frame_say.sameCore

/-- Registry invariant. `ex` is the one context allowed to be registered while terminated and
not (yet) a zombie: the actor in the middle of its own termination handler. -/
def RegInv (ex : Option Cid) (s : Sys) : Prop :=
  (s.registry.map (·.1)).Nodup ∧
  (∀ e ∈ s.registry, e.2 < s.n ∧ (s.ctx e.2).path = e.1) ∧
  (∀ e ∈ s.registry, some e.2 ≠ ex → (s.ctx e.2).state = .killed → (s.ctx e.2).zombie = true)

theorem regInv_sameCore {ex : Option Cid} {s s' : Sys} (h : SameCore s s') (hi : RegInv ex s) : RegInv ex s' := by
  obtain ⟨hr, hn, hc⟩ := h
  refine ⟨by rw [hr]; exact hi.1, ?_, ?_⟩
  · intro e he; rw [hr] at he
    have := hi.2.1 e he
    exact ⟨by rw [hn]; exact this.1, by rw [(hc e.2).1]; exact this.2⟩
  · intro e he hne hk; rw [hr] at he
    rw [(hc e.2).2.2]; exact hi.2.2 e he hne (by rw [← (hc e.2).2.1]; exact hk)

theorem lookup_none_not_mem (l : List (Path × Cid)) (p : Path) (h : l.lookup p = none) : p ∉ l.map (·.1) := fun hm => by
  obtain ⟨e, he, rfl⟩ := List.mem_map.1 hm
  simpa using List.lookup_eq_none_iff.1 h e he

/-- An update of one context that keeps its path: what matters is whether that context ends up terminated and not
a zombie.  If it does not, or did before, the invariant stays and no exception is needed for it any more; `ex'` is
any exception that covers the case where it does. -/
theorem regInv_upd {ex ex' : Option Cid} {s : Sys} (c : Cid) (f : Ctx → Ctx) (hp : (f (s.ctx c)).path = (s.ctx c).path)
    (hok : some c ≠ ex' → (f (s.ctx c)).state = .killed → (f (s.ctx c)).zombie = true)
    (hex : ∀ d, d ≠ c → some d ≠ ex' → some d ≠ ex) (hi : RegInv ex s) : RegInv ex' (upd s c f) := by
  refine ⟨hi.1, fun e he => ?_, fun e he hne hk => ?_⟩
  · refine ⟨(hi.2.1 e he).1, ?_⟩
    by_cases h : e.2 = c
    · rw [h, upd_ctx_self, hp, ← h]; exact (hi.2.1 e he).2
    · rw [upd_ctx_other h]; exact (hi.2.1 e he).2
  · by_cases h : e.2 = c
    · rw [h] at hne hk ⊢; rw [upd_ctx_self] at hk ⊢; exact hok hne hk
    · rw [upd_ctx_other h] at hk ⊢; exact hi.2.2 e he (hex e.2 h hne) hk

theorem regInv_handlerInv : HandlerInv RegInv where
  frame hf := regInv_sameCore hf.sameCore
  pause hi c b _ := regInv_sameCore (sameCore_of_agree (agree_upd _ c _)) hi
  kids hi c g _ := regInv_sameCore (sameCore_of_agree (agree_upd _ c _)) hi
  create {m s} hi nc hrun _ _ hl := by
    have fresh : ∀ e ∈ s.registry, e.2 ≠ s.n := fun e he => Nat.ne_of_lt (hi.2.1 e he).1
    refine ⟨List.nodup_cons.2 ⟨lookup_none_not_mem _ _ hl, hi.1⟩, fun e he => ?_, fun e he hne hk => ?_⟩ <;>
      rcases List.mem_cons.1 he with rfl | he
    · exact ⟨Nat.lt_succ_self _, congrArg Ctx.path (create_ctx_new s _)⟩
    · exact ⟨Nat.lt_succ_of_lt (hi.2.1 e he).1, by rw [create_ctx_old s _ (fresh e he)]; exact (hi.2.1 e he).2⟩
    · rw [create_ctx_new, hrun] at hk; cases hk
    · rw [create_ctx_old s _ (fresh e he)] at hk ⊢; exact hi.2.2 e he hne hk
  sub hi c ty _ _ := regInv_sameCore (sameCore_of_agree agree_of_eq) hi
  subsFilter hi p := regInv_sameCore (sameCore_of_agree agree_of_eq) hi
  schedule hi c ref _ _ := regInv_sameCore (sameCore_of_agree (agree_schedule _ c ref) (schedule_registry _ c ref)) hi
  cancel hi c ref key _ := regInv_sameCore (sameCore_of_agree (agree_jobs _ c _ _)) hi
  clearJobs hi c := regInv_sameCore (sameCore_of_agree (agree_clearJobs _ c)) hi
  unregister hi p :=
    ⟨.sublist (.map _ List.filter_sublist) hi.1, fun e he => hi.2.1 e (List.mem_filter.1 he).1,
     fun e he => hi.2.2 e (List.mem_filter.1 he).1⟩
  dying hi c g _ := regInv_upd c _ rfl (fun _ hk => by cases hk) (fun _ _ h => h) hi
  unflag hi c _ := regInv_sameCore (sameCore_of_agree (agree_upd _ c _)) hi
  mark hi c _ _ := regInv_upd c _ rfl (fun h => absurd rfl h) (fun _ _ _ => Option.some_ne_none _) hi
  finish {s c} hi hr := by
    -- no entry points to `c`: it would be under the path of `c`
    refine regInv_sameCore (sameCore_of_agree (agree_clearJobs _ c)) ⟨hi.1, hi.2.1, fun e he _ => hi.2.2 e he fun h => ?_⟩
    cases h
    exact hr.1 e he (hi.2.1 e he).2.symm
  zombify hi _ := regInv_upd _ _ rfl (fun _ _ => rfl) (fun _ h _ he => h (Option.some.inj he)) hi
  revive hi _ := regInv_upd _ _ rfl (fun _ hk => by cases hk) (fun _ h _ he => h (Option.some.inj he)) hi

theorem actorOf_n_ge (s : Sys) (parent : Cid) (name : String) (script strat hooks : Nat) (ds : List Nat) :
    s.n ≤ (actorOf s parent name script strat hooks ds).n := by
  rcases actorOf_shape s parent name script strat hooks ds with ⟨e, h⟩ | ⟨_, _, hf⟩
  · rw [h]; exact Nat.le_refl _
  · rw [hf.n]; exact Nat.le_succ _

theorem regInv_init (f : Bool) : RegInv none (init f) := ⟨.nil, fun _ => nofun, fun _ => nofun⟩

end Vivid.ActorSys
