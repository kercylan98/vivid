import Vivid.Model.VersionVector
import Vivid.Proofs.Assoc

/-! `get` / `has` / `set` and the merge loop of M7 as the operations of `Proofs/Assoc.lean`; `Compare` without its early exits
(`compare_eq`: the verdict on two flags, `vLess` and `vGreater`) and its specification. -/
namespace Vivid.VV
open Vivid.Assoc

@[simp] theorem get_nil (k : Node) : get [] k = 0 := rfl
@[simp] theorem has_nil (k : Node) : has [] k = false := rfl

theorem get_cons (k' : Node) (c : Nat) (t : VV) (k : Node) :
    get ((k', c) :: t) k = if k' = k then c else get t k := rfl

theorem has_cons (k' : Node) (c : Nat) (t : VV) (k : Node) :
    has ((k', c) :: t) k = if k' = k then true else has t k := rfl

theorem get_eq (v : VV) (k : Node) : get v k = (find v k).getD 0 := by
  induction v with
  | nil => rfl
  | cons e t ih => simp only [get, find, ih]; split <;> rfl

theorem has_eq (v : VV) (k : Node) : has v k = (find v k).isSome := by
  induction v with
  | nil => rfl
  | cons e t ih => simp only [has, find, ih]; split <;> rfl

theorem set_eq (v : VV) (k : Node) (c : Nat) : set v k c = put v k c := by
  induction v with
  | nil => rfl
  | cons e t ih => simp only [set, put, ih]

theorem mergeInto_eq (o : VV) : ∀ out, mergeInto out o = mergeWith (fun x y => decide (x > y)) out o := by
  induction o with
  | nil => exact fun _ => rfl
  | cons e t ih =>
    intro out
    simp only [mergeInto, mergeWith, ih, has_eq, get_eq, set_eq]
    cases find out e.1 <;> rfl

theorem get_set (v : VV) (k : Node) (c : Nat) (k' : Node) :
    get (set v k c) k' = if k = k' then c else get v k' := by
  rw [get_eq, set_eq, find_put, get_eq]; split <;> rfl

theorem has_set (v : VV) (k : Node) (c : Nat) (k' : Node) :
    has (set v k c) k' = if k = k' then true else has v k' := by
  rw [has_eq, set_eq, find_put, has_eq]; split <;> rfl

theorem wf_set {v : VV} {k : Node} {c : Nat} (h : WF v) : WF (set v k c) :=
  set_eq v k c ▸ nodup_put h k c

theorem get_of_length_zero (v : VV) (h : v.length = 0) (k : Node) : get v k = 0 := by
  rw [List.eq_nil_of_length_eq_zero h]; rfl

theorem merge_get (a b : VV) (hb : WF b) (k : Node) :
    get (merge a b) k = max (get a k) (get b k) := by
  unfold merge
  by_cases h : b.length = 0
  · rw [if_pos h, get_of_length_zero b h, Nat.max_zero]
  · rw [if_neg h]
    by_cases h' : a.length = 0
    · rw [if_pos h', get_of_length_zero a h', Nat.zero_max]
    · rw [if_neg h', mergeInto_eq, get_eq, find_mergeWith _ hb, get_eq, get_eq]
      cases find a k <;> cases find b k
      · rfl
      · exact (Nat.zero_max _).symm
      · exact (Nat.max_zero _).symm
      · simp only [pick, Option.merge, Option.getD, decide_eq_true_eq]
        split
        · next h => exact (Nat.max_eq_right (Nat.le_of_lt h)).symm
        · next h => exact (Nat.max_eq_left (Nat.not_lt.1 h)).symm

theorem merge_wf {a b : VV} (ha : WF a) (hb : WF b) : WF (merge a b) := by
  unfold merge
  split
  · exact ha
  · split
    · exact hb
    · exact mergeInto_eq b a ▸ nodup_mergeWith _ b a ha

theorem has_of_pos {v : VV} {k : Node} (h : 0 < get v k) : has v k = true := by
  rw [has_eq]; rw [get_eq] at h
  cases hf : find v k with
  | none => rw [hf] at h; cases h
  | some _ => rfl

theorem any_iff {v : VV} (h : WF v) (p : Node → Nat → Bool) :
    (v.any fun e => p e.1 e.2) = true ↔ ∃ k, has v k = true ∧ p k (get v k) = true := by
  rw [List.any_eq_true]
  constructor
  · rintro ⟨⟨k, c⟩, he, hp⟩
    have hf := (mem_iff_find h k c).1 he
    exact ⟨k, by rw [has_eq, hf]; rfl, by rw [get_eq, hf]; exact hp⟩
  · rintro ⟨k, hk, hp⟩
    refine ⟨(k, get v k), (mem_iff_find h _ _).2 ?_, hp⟩
    rw [has_eq] at hk; rw [get_eq]
    cases hf : find v k with
    | none => rw [hf] at hk; cases hk
    | some c => rfl

/-- What a pass of `Compare` hands on: its two flags, the early `VersionConcurrent` read as both
set.  Flags only ever go up, so the early exits change nothing (`flags_exit`). -/
def flags (r : Option (Bool × Bool)) : Bool × Bool := r.getD (true, true)

def verdict : Bool × Bool → Order
  | (true, false) => .before
  | (false, true) => .after
  | (false, false) => .equal
  | (true, true) => .concurrent

theorem flags_exit (l g : Bool) (r : Option (Bool × Bool))
    (h : l = true → g = true → flags r = (true, true)) :
    flags (if (l && g) = true then none else r) = flags r := by
  split
  · next hlg => exact (h (Bool.and_eq_true_iff.1 hlg).1 (Bool.and_eq_true_iff.1 hlg).2).symm
  · rfl

theorem flags_pass1 (o : VV) : ∀ v l g, flags (cmpPass1 o v l g) =
    (l || v.any fun e => e.2 < get o e.1, g || v.any fun e => get o e.1 < e.2) := by
  intro v
  induction v with
  | nil => intro l g; simp [cmpPass1, flags]
  | cons e t ih =>
    intro l g
    obtain ⟨k, va⟩ := e
    have hl : (if va < get o k then true else l) = (l || decide (va < get o k)) := by
      by_cases h : va < get o k <;> simp [h]
    have hg : (if va < get o k then g else if va > get o k then true else g)
        = (g || decide (get o k < va)) := by
      by_cases h : va < get o k
      · simp [h, Nat.lt_asymm h]
      · by_cases h' : get o k < va <;> simp [h, h']
    simp only [cmpPass1, List.any_cons, hl, hg, ← Bool.or_assoc]
    rw [flags_exit, ih]
    intro h1 h2; rw [ih, h1, h2]; rfl

theorem flags_pass2 (v : VV) : ∀ o l g, flags (cmpPass2 v o l g) =
    (l || o.any fun e => !has v e.1 && decide (0 < e.2), g) := by
  intro o
  induction o with
  | nil => intro l g; simp [cmpPass2, flags]
  | cons e t ih =>
    intro l g
    obtain ⟨k, vb⟩ := e
    simp only [cmpPass2, List.any_cons, ← Bool.or_assoc]
    cases has v k
    · have hl : (if 0 < vb then true else l) = (l || decide (0 < vb)) := by
        by_cases h : 0 < vb <;> simp [h]
      simp only [hl, Bool.false_eq_true, if_false, Bool.not_false, Bool.true_and]
      rw [flags_exit, ih]
      intro h1 h2; rw [ih, h1, h2]; rfl
    · simp only [if_true, ih, Bool.not_true, Bool.false_and, Bool.or_false]

/-- The two flags of `Compare`, `vLessOther` and `vGreaterOther`, without its early exits. -/
def vLess (a b : VV) : Bool := (a.any fun e => e.2 < get b e.1) || b.any fun e => !has a e.1 && decide (0 < e.2)
def vGreater (a b : VV) : Bool := a.any fun e => get b e.1 < e.2

theorem compare_eq (a b : VV) : compare a b = verdict (vLess a b, vGreater a b) := by
  have h : compare a b = verdict (flags (cmpPass2 a b (flags (cmpPass1 b a false false)).1
      (flags (cmpPass1 b a false false)).2)) := by
    unfold compare
    by_cases h : a.length = 0 ∧ b.length = 0
    · rw [if_pos h, List.eq_nil_of_length_eq_zero h.1, List.eq_nil_of_length_eq_zero h.2]; rfl
    · rw [if_neg h]
      cases cmpPass1 b a false false with
      | none => show _ = verdict (flags (cmpPass2 a b true true)); rw [flags_pass2]; rfl
      | some p =>
        dsimp only [flags, Option.getD]
        cases cmpPass2 a b p.1 p.2 with
        | none => rfl
        | some q => obtain ⟨l, g⟩ := q; cases l <;> cases g <;> rfl
  rw [h, flags_pass2, flags_pass1]; rfl

theorem not_leq_iff (a b : VV) : ¬ leq a b ↔ ∃ k, get b k < get a k := by
  simp only [leq, Classical.not_forall, Nat.not_le]

theorem vGreater_iff {a : VV} (b : VV) (ha : WF a) : vGreater a b = true ↔ ¬ leq a b := by
  rw [not_leq_iff, vGreater, any_iff ha (fun k c => get b k < c)]
  simp only [decide_eq_true_eq]
  exact ⟨fun ⟨k, _, h⟩ => ⟨k, h⟩, fun ⟨k, h⟩ => ⟨k, has_of_pos (Nat.zero_lt_of_lt h), h⟩⟩

theorem vLess_iff {a b : VV} (ha : WF a) (hb : WF b) : vLess a b = true ↔ ¬ leq b a := by
  rw [not_leq_iff, vLess, Bool.or_eq_true,
    any_iff ha (fun k c => c < get b k), any_iff hb (fun k c => !has a k && decide (0 < c))]
  simp only [decide_eq_true_eq, Bool.and_eq_true, Bool.not_eq_true']
  constructor
  · rintro (⟨k, _, h⟩ | ⟨k, _, hn, h⟩)
    · exact ⟨k, h⟩
    · exact ⟨k, Nat.lt_of_le_of_lt (Nat.not_lt.1 fun hp => by rw [has_of_pos hp] at hn; cases hn) h⟩
  · rintro ⟨k, h⟩
    cases hk : has a k with
    | true => exact .inl ⟨k, hk, h⟩
    | false => exact .inr ⟨k, has_of_pos (Nat.zero_lt_of_lt h), hk, Nat.zero_lt_of_lt h⟩

theorem compare_spec (a b : VV) (ha : WF a) (hb : WF b) :
    (compare a b = .equal ↔ (leq a b ∧ leq b a)) ∧
    (compare a b = .before ↔ (leq a b ∧ ¬ leq b a)) ∧
    (compare a b = .after ↔ (¬ leq a b ∧ leq b a)) ∧
    (compare a b = .concurrent ↔ (¬ leq a b ∧ ¬ leq b a)) := by
  have hl := vLess_iff ha hb
  have hg := vGreater_iff b ha
  rw [compare_eq]
  cases h : vLess a b <;> cases h' : vGreater a b <;> simp_all [verdict]

end Vivid.VV
