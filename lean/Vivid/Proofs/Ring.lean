import Vivid.Model.Ring

/-!
Refinement of the ring buffer to a FIFO list.

The `i`-th oldest item sits in slot `(head + 1 + i) % mod`.  All index reasoning goes through
three facts: offsets below `mod` name distinct slots (`add_mod_inj`), the write slot
`(tail + 1) % mod` is slot `len` (`Inv.tail_succ`), and writing one slot leaves the others alone
(`Inv.rd_set_slot`).
-/
namespace Vivid.Ring

theorem rd_set {b : Array (Option Nat)} {i j : Nat} {x : Option Nat} (hi : i < b.size) :
    rd (b.setIfInBounds i x) j = if i = j then x else rd b j := by
  unfold rd
  rw [Array.getElem?_setIfInBounds, if_pos hi]
  by_cases h : i = j <;> simp only [h, if_true, if_false]

theorem rd_grown (b : Array (Option Nat)) (t m j : Nat) :
    rd (grown b t m) j = if j < m then rd b ((t + j) % m) else none := by
  unfold grown rd
  rw [Array.getElem?_map, Array.getElem?_range]
  by_cases h : j < 2 * m
  · rw [if_pos h]; rfl
  · rw [if_neg h, if_neg fun h' => h (Nat.lt_of_lt_of_le h' (Nat.le_mul_of_pos_left m Nat.two_pos))]; rfl

theorem size_grown (b : Array (Option Nat)) (t m : Nat) : (grown b t m).size = 2 * m := by
  simp [grown]

theorem lt_two_mul {m : Nat} (h : 0 < m) : m < 2 * m :=
  Nat.two_mul m ▸ Nat.lt_add_of_pos_right h

/-- Stated in the shape of `Rel.elems` for the grown ring (`head = 0`, `mod = 2 * m`). -/
theorem rd_grown_set {b : Array (Option Nat)} {t m i : Nat} {v : Option Nat} (hi : i < m) :
    rd ((grown b t m).setIfInBounds m v) ((0 + 1 + i) % (2 * m))
      = if i + 1 = m then v else rd b ((t + 1 + i) % m) := by
  have hm := lt_two_mul (Nat.zero_lt_of_lt hi)
  rw [Nat.zero_add, Nat.add_comm 1 i, Nat.mod_eq_of_lt (Nat.lt_of_le_of_lt hi hm),
    rd_set (by rw [size_grown]; exact hm), rd_grown]
  by_cases e : i + 1 = m
  · rw [if_pos e, if_pos e.symm]
  · rw [if_neg e, if_neg (Ne.symm e), if_pos (Nat.lt_of_le_of_ne hi e), Nat.add_assoc, Nat.add_comm 1 i]

theorem add_mod_inj {m a i j : Nat} (hi : i < m) (hj : j < m)
    (h : (a + i) % m = (a + j) % m) : i = j := by
  -- `m` divides both `i - j` and `j - i`, which are below `m`
  have h1 := Nat.sub_mod_eq_zero_of_mod_eq h
  have h2 := Nat.sub_mod_eq_zero_of_mod_eq h.symm
  rw [Nat.add_sub_add_left, Nat.mod_eq_of_lt (Nat.lt_of_le_of_lt (Nat.sub_le ..) hi)] at h1
  rw [Nat.add_sub_add_left, Nat.mod_eq_of_lt (Nat.lt_of_le_of_lt (Nat.sub_le ..) hj)] at h2
  exact Nat.le_antisymm (Nat.le_of_sub_eq_zero h1) (Nat.le_of_sub_eq_zero h2)

structure Inv (r : Ring) : Prop where
  pos : 0 < r.mod
  size : r.buf.size = r.mod
  head : r.head < r.mod
  len : r.len < r.mod
  tail : r.tail = (r.head + r.len) % r.mod

structure Rel (r : Ring) (q : List Nat) : Prop where
  inv : Inv r
  len : r.len = q.length
  elems : ∀ i (h : i < q.length), rd r.buf ((r.head + 1 + i) % r.mod) = some q[i]

variable {r : Ring} {q : List Nat}

theorem Inv.tail_succ (h : Inv r) : (r.tail + 1) % r.mod = (r.head + 1 + r.len) % r.mod := by
  rw [h.tail, Nat.mod_add_mod, Nat.add_right_comm]

/-- `Push` grows exactly when one free slot is left. -/
theorem Inv.full_iff (h : Inv r) : (r.tail + 1) % r.mod = r.head ↔ r.len + 1 = r.mod := by
  rw [h.tail_succ, Nat.add_right_comm, Nat.add_assoc]
  constructor
  · intro e
    rcases Nat.lt_or_eq_of_le h.len with hlt | heq
    · exact absurd (add_mod_inj (a := r.head) (j := 0) hlt h.pos (e.trans (Nat.mod_eq_of_lt h.head).symm))
        (Nat.succ_ne_zero _)
    · exact heq
  · intro e; rw [e, Nat.add_mod_right, Nat.mod_eq_of_lt h.head]

theorem Inv.rd_set_slot (h : Inv r) {i j : Nat} (hi : i < r.mod) (hj : j < r.mod) (v : Option Nat) :
    rd (r.buf.setIfInBounds ((r.head + 1 + i) % r.mod) v) ((r.head + 1 + j) % r.mod)
      = if i = j then v else rd r.buf ((r.head + 1 + j) % r.mod) := by
  rw [rd_set (by rw [h.size]; exact Nat.mod_lt _ h.pos)]
  by_cases e : i = j
  · rw [if_pos e, if_pos (e ▸ rfl)]
  · rw [if_neg e, if_neg (fun e' => e (add_mod_inj hi hj e'))]

theorem rel_new (n : Nat) (h : 0 < n) : Rel (new n) [] :=
  ⟨⟨h, Array.size_replicate, h, h, (Nat.zero_mod n).symm⟩, rfl, nofun⟩

theorem Rel.snoc {r' : Ring} {x : Nat} (inv : Inv r') (len : r'.len = q.length + 1)
    (old : ∀ i (h : i < q.length), rd r'.buf ((r'.head + 1 + i) % r'.mod) = some q[i])
    (last : rd r'.buf ((r'.head + 1 + q.length) % r'.mod) = some x) : Rel r' (q ++ [x]) := by
  refine ⟨inv, by rw [len, List.length_append]; rfl, fun i hi => ?_⟩
  rw [List.length_append] at hi
  rcases Nat.lt_or_eq_of_le (Nat.le_of_lt_succ hi) with hlt | rfl
  · rw [List.getElem_append_left hlt]; exact old i hlt
  · rw [List.getElem_concat_length rfl]; exact last

theorem rel_push (h : Rel r q) (x : Nat) : Rel (push r x) (q ++ [x]) := by
  have hi := h.inv
  have hlen := h.len
  have hq := hi.len
  unfold push
  simp only
  split
  · -- growth: the items move to indices `1 ..= len` of the doubled buffer, `x` goes to index `mod`
    next hfull =>
    have hl := hi.full_iff.1 hfull
    have hm := lt_two_mul hi.pos
    refine Rel.snoc ⟨Nat.lt_trans hi.pos hm, ?_, Nat.lt_trans hi.pos hm, hl ▸ hm, ?_⟩
      (congrArg (· + 1) hlen) (fun i hlt => ?_) ?_
    · simp only [Array.size_setIfInBounds, size_grown]
    · rw [Nat.zero_add, hl, Nat.mod_eq_of_lt hm]
    · have h1 : i + 1 < r.mod := hl ▸ Nat.succ_lt_succ (hlen ▸ hlt)
      rw [rd_grown_set (Nat.lt_of_succ_lt h1), if_neg (Nat.ne_of_lt h1), hfull]
      exact h.elems i hlt
    · rw [rd_grown_set (hlen ▸ hq), if_pos (hlen ▸ hl)]
  · next hnot =>
    have hl : r.len + 1 < r.mod := Nat.lt_of_le_of_ne hq (mt hi.full_iff.2 hnot)
    refine Rel.snoc ⟨hi.pos, ?_, hi.head, hl, ?_⟩ (congrArg (· + 1) hlen) (fun i hlt => ?_) ?_
    · simp only [Array.size_setIfInBounds]; exact hi.size
    · rw [hi.tail_succ, Nat.add_right_comm, Nat.add_assoc]
    · have h1 : i < r.len := hlen ▸ hlt
      rw [hi.tail_succ, hi.rd_set_slot hq (Nat.lt_trans h1 hq), if_neg (Nat.ne_of_gt h1)]
      exact h.elems i hlt
    · rw [hi.tail_succ, hlen, hi.rd_set_slot (hlen ▸ hq) (hlen ▸ hq), if_pos rfl]

theorem pop_empty (h : Rel r []) : pop r = (r, none) :=
  if_pos h.len

theorem rel_pop {y : Nat} {t : List Nat} (h : Rel r (y :: t)) :
    ∃ r', pop r = (r', some (some y)) ∧ Rel r' t := by
  have hi := h.inv
  have hlen : r.len = t.length + 1 := h.len
  have hq : t.length + 1 < r.mod := hlen ▸ hi.len
  -- the slots of the popped ring, counted from its new head, are the old slots shifted by one
  have hidx : ∀ i, ((r.head + 1) % r.mod + 1 + i) % r.mod = (r.head + 1 + (i + 1)) % r.mod := fun i => by
    rw [Nat.add_assoc, Nat.mod_add_mod, Nat.add_comm 1 i]
  unfold pop
  rw [if_neg (hlen ▸ Nat.succ_ne_zero _)]
  refine ⟨_, congrArg (fun v => (_, some v)) (h.elems 0 (Nat.zero_lt_succ _)),
    ⟨hi.pos, ?_, Nat.mod_lt _ hi.pos, Nat.lt_of_le_of_lt (Nat.sub_le ..) hi.len, ?_⟩, ?_, fun i hlt => ?_⟩
  · simp only [Array.size_setIfInBounds]; exact hi.size
  · rw [hi.tail, Nat.mod_add_mod, hlen, Nat.add_sub_cancel, Nat.add_right_comm, Nat.add_assoc]
  · rw [hlen]; rfl
  · have := hi.rd_set_slot (i := 0) (j := i + 1) hi.pos (Nat.lt_trans (Nat.succ_lt_succ hlt) hq) none
    rw [if_neg (Nat.succ_ne_zero i).symm] at this
    rw [hidx, this]
    exact h.elems (i + 1) (Nat.succ_lt_succ hlt)

end Vivid.Ring
