import Vivid.Proofs.Codec

/-! The decoder only consumes a prefix, and a successful decode of a schema whose pre-sized
containers are all capped allocates in proportion to what it consumed. -/
namespace Vivid.Codec

def maxCap : Ty → Nat
  | .pair a b => max (maxCap a) (maxCap b)
  | .list (some c) true a => max c (maxCap a)
  | .list _ _ a => maxCap a
  | .opt32 a | .opt8 a | .chk _ a => maxCap a
  | _ => 0

def capped : Ty → Bool
  | .pair a b => capped a && capped b
  | .list none true _ => false
  | .list _ _ a => capped a
  | .opt32 a | .opt8 a | .chk _ a => capped a
  | _ => true

/-- Reading took the prefix `p` off `bs`, and `p` pays for the `al` units allocated at the rate
of `m` units per 4 bytes. -/
def Reads (m : Nat) (bs : Bytes) (al : Nat) (r : Bytes) : Prop :=
  ∃ p, bs = p ++ r ∧ 4 * al ≤ m * p.length

variable {m m' al a1 a2 k x : Nat} {bs r r1 h : Bytes} {f g : Rd}

namespace Reads

theorem refl : Reads m bs 0 bs := ⟨[], rfl, Nat.le_refl _⟩

theorem mono (h : m ≤ m') : Reads m bs al r → Reads m' bs al r
  | ⟨p, e, hp⟩ => ⟨p, e, Nat.le_trans hp (Nat.mul_le_mul_right _ h)⟩

theorem seq :
    Reads m bs a1 r1 → Reads m r1 a2 r → Reads m bs (a1 + a2) r
  | ⟨p, e, hp⟩, ⟨q, e', hq⟩ => ⟨p ++ q, by rw [e, e', List.append_assoc], by
      rw [List.length_append, Nat.mul_add, Nat.mul_add]; exact Nat.add_le_add hp hq⟩

theorem field (e : decNat k bs = .ok (x, r)) (h : 4 * al ≤ m * k) :
    Reads m bs al r :=
  let ⟨p, e, hl⟩ := decNat_ok e; ⟨p, e, hl ▸ h⟩

theorem pre (e : decNat k bs = .ok (x, r1)) (h : Reads m r1 al r) :
    Reads m bs al r :=
  Nat.zero_add al ▸ (field e (Nat.zero_le _)).seq h

theorem ofTake (e : take k bs = .ok (h, r)) : Reads m bs 0 r :=
  ⟨h, (take_ok e).1, Nat.zero_le _⟩

end Reads

def Bounded (m : Nat) (f : Rd) : Prop := ∀ ⦃bs v al r⦄, f bs = .ok ((v, al), r) → Reads m bs al r

namespace Bounded

theorem mono (h : m ≤ m') (hf : Bounded m f) : Bounded m' f :=
  fun _ _ _ _ e => (hf e).mono h

theorem seq {k : V → V → V} (hf : Bounded m f) (hg : Bounded m g) :
    Bounded m (Codec.seq k f g) := by
  intro bs v al r e
  unfold Codec.seq at e
  split at e
  · cases e
  · next h1 =>
    split at e
    · cases e
    · next h2 => cases e; exact (hf h1).seq (hg h2)

theorem decN (hf : Bounded m f) : ∀ n, Bounded m (Codec.decN f n)
  | 0 => fun _ _ _ _ e => by cases e; exact .refl
  | n + 1 => decN_succ f n ▸ hf.seq (decN hf n)

end Bounded

theorem capped_list {cap : Option Nat} {pre : Bool} {a : Ty} {cnt : Nat}
    (hc : capped (.list cap pre a) = true) (hk : capOk cap cnt = true) :
    capped a = true ∧ maxCap a ≤ maxCap (.list cap pre a) ∧
      (if pre then cnt else 0) ≤ maxCap (.list cap pre a) :=
  match cap, pre, hc, hk with
  | none, false, hc, _ | some _, false, hc, _ => ⟨hc, Nat.le_refl _, Nat.zero_le _⟩
  | some _, true, hc, hk =>
    ⟨hc, Nat.le_max_right .., Nat.le_trans (of_decide_eq_true hk) (Nat.le_max_left ..)⟩

theorem decA_bounded (t : Ty) (hc : capped t = true) : Bounded (maxCap t) (decA t) := by
  induction t with
  | unit => intro bs v al r e; cases e; exact .refl
  | u8 | u16 | u32 | u64 | i32 | i64 | bool =>
    intro bs v al r e
    unfold decA at e
    split at e
    · next hd => cases e; exact .pre hd .refl
    · cases e
  | bytes =>
    intro bs v al r e
    unfold decA at e
    split at e
    · cases e
    · next hd =>
      split at e
      · next ht => cases e; exact .pre hd (.ofTake ht)
      · cases e
  | pair a b iha ihb =>
    simp only [capped, Bool.and_eq_true] at hc
    exact decA_pair a b ▸ ((iha hc.1).mono (Nat.le_max_left ..)).seq ((ihb hc.2).mono (Nat.le_max_right ..))
  | list cap pre a iha =>
    intro bs v al r e
    unfold decA at e
    split at e
    · cases e
    · next cnt r1 hd =>
      split at e
      · next hcap =>
        split at e
        · cases e
        · next hn =>
          cases e
          obtain ⟨hca, hm, hx⟩ := capped_list hc hcap
          -- the count field pays for the pre-sizing, the elements for themselves
          rw [Nat.add_comm]
          exact (Reads.field hd (Nat.mul_comm 4 _ ▸ Nat.mul_le_mul_left 4 hx)).seq
            (((iha hca).decN cnt hn).mono hm)
      · cases e
  | opt32 a iha | opt8 a iha =>
    intro bs v al r e
    unfold decA at e
    split at e
    · cases e
    · next hd =>
      split at e
      · cases e; exact .pre hd .refl
      · split at e
        · cases e
        · next h1 => cases e; exact .pre hd (iha hc h1)
  | chk c a iha =>
    intro bs v al r e
    unfold decA at e
    split at e
    · cases e
    · next h1 =>
      split at e
      · cases e; exact iha hc h1
      · cases e

end Vivid.Codec
