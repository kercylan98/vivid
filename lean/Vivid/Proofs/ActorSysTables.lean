import Vivid.Proofs.ActorSysRule

/-! The event-stream table and the scheduler queue of M10 (`TablesInv`) as a handler invariant.
Property theorems: `Props/C19C20Global.lean`. -/
namespace Vivid.ActorSys

def tlife (x : Ctx) : Path × St × Bool × List (String × String) := (x.path, x.state, x.zombie, x.jobs)

/-- Every recorded job carries the key `path#reference`; every subscription and every queued job belongs to an existing
context that may still act, a subscription under its subscriber's path, a queued job recorded by its owner.
`ex`: the actor that may still hold subscriptions and queued jobs although terminated, because it is inside its own
termination, before `cleanup` and `clearJobs`. -/
structure TablesInv (ex : Option Cid) (s : Sys) : Prop where
  keyed : ∀ c, ∀ p ∈ (s.ctx c).jobs, p.2 = jobKey (s.ctx c).path p.1
  subs : ∀ e ∈ s.subs, e.2.2 < s.n ∧ (s.ctx e.2.2).path = e.2.1 ∧ Awake ex e.2.2 (s.ctx e.2.2)
  jobs : ∀ e ∈ s.jobTable, e.2 < s.n ∧ (∃ p ∈ (s.ctx e.2).jobs, p.2 = e.1) ∧ Awake ex e.2 (s.ctx e.2)

theorem tinv_agree {ex : Option Cid} {s s' : Sys} (h : Agree tlife s s') (hi : TablesInv ex s)
    (hs : s'.subs = s.subs := by rfl) (hj : s'.jobTable = s.jobTable := by rfl) : TablesInv ex s' := by
  have hp : ∀ c, (s'.ctx c).path = (s.ctx c).path := fun c => congrArg (·.1) (h.2 c)
  have hjb : ∀ c, (s'.ctx c).jobs = (s.ctx c).jobs := fun c => congrArg (·.2.2.2) (h.2 c)
  have haw : ∀ c, Awake ex c (s.ctx c) → Awake ex c (s'.ctx c) := fun c =>
    ((h.mono fun _ _ h => congrArg (fun k => (k.2.1, k.2.2.1)) h).keeps c).awake
  refine ⟨fun c p hpj => ?_, fun e he => ?_, fun e he => ?_⟩
  · rw [hp]; exact hi.keyed c p (hjb c ▸ hpj)
  · obtain ⟨h1, h2, h3⟩ := hi.subs e (hs ▸ he)
    exact ⟨h.1 ▸ h1, (hp _).trans h2, haw _ h3⟩
  · obtain ⟨h1, h2, h3⟩ := hi.jobs e (hj ▸ he)
    exact ⟨h.1 ▸ h1, hjb _ ▸ h2, haw _ h3⟩

theorem Frame.tlife {s s' : Sys} (h : Frame s s') : Agree tlife s s' :=
  h.agree fun _ _ h => congrArg (fun k : Skel => (k.path, k.state, k.zombie, k.jobs)) h

/-- An update of the context of `c` that keeps its path.  `hk`: its new job records carry their key.  `ho`: the other
actors may still act under the new exception.  `hs`: so may `c`, if it holds a subscription.  `hj`: a queued job of `c` is
still recorded by `c`, and `c` may still act. -/
theorem tinv_upd {ex ex' : Option Cid} {s : Sys} (c : Cid) (f : Ctx → Ctx) (hi : TablesInv ex s)
    (hp : (f (s.ctx c)).path = (s.ctx c).path)
    (hk : ∀ p ∈ (f (s.ctx c)).jobs, p.2 = jobKey (s.ctx c).path p.1)
    (ho : ∀ d x, d ≠ c → Awake ex d x → Awake ex' d x)
    (hs : (∃ e ∈ s.subs, e.2.2 = c) → Awake ex' c (f (s.ctx c)))
    (hj : ∀ e ∈ s.jobTable, e.2 = c → (∃ p ∈ (f (s.ctx c)).jobs, p.2 = e.1) ∧ Awake ex' c (f (s.ctx c))) :
    TablesInv ex' (upd s c f) := by
  refine ⟨fun d p hpj => ?_, fun e he => ?_, fun e he => ?_⟩
  · by_cases h : d = c
    · subst h; rw [upd_ctx_self] at hpj ⊢; rw [hp]; exact hk p hpj
    · rw [upd_ctx_other h] at hpj ⊢; exact hi.keyed d p hpj
  · obtain ⟨h1, h2, h3⟩ := hi.subs e he
    refine ⟨h1, ?_⟩
    by_cases h : e.2.2 = c
    · rw [h, upd_ctx_self, hp]; exact ⟨h ▸ h2, hs ⟨e, he, h⟩⟩
    · rw [upd_ctx_other h]; exact ⟨h2, ho _ _ h h3⟩
  · obtain ⟨h1, h2, h3⟩ := hi.jobs e he
    refine ⟨h1, ?_⟩
    by_cases h : e.2 = c
    · rw [h, upd_ctx_self]; exact hj e he h
    · rw [upd_ctx_other h]; exact ⟨h2, ho _ _ h h3⟩

theorem tinv_life {ex ex' : Option Cid} {s : Sys} (c : Cid) (f : Ctx → Ctx) (hi : TablesInv ex s)
    (ho : ∀ d x, d ≠ c → Awake ex d x → Awake ex' d x) (hs : Awake ex' c (f (s.ctx c)))
    (hp : (f (s.ctx c)).path = (s.ctx c).path := by rfl) (hj : (f (s.ctx c)).jobs = (s.ctx c).jobs := by rfl) :
    TablesInv ex' (upd s c f) :=
  tinv_upd c f hi hp (hj ▸ hi.keyed c) ho (fun _ => hs) fun e he hc => ⟨hj ▸ hc ▸ (hi.jobs e he).2.1, hs⟩

theorem tinv_filterJobs {ex : Option Cid} {s : Sys} (q : String × Cid → Bool) (hi : TablesInv ex s) :
    TablesInv ex { s with jobTable := s.jobTable.filter q } :=
  ⟨hi.keyed, hi.subs, fun e he => hi.jobs e (List.mem_filter.1 he).1⟩

theorem tinv_schedule {ex : Option Cid} {s : Sys} (c : Cid) (ref : String) (hc : c < s.n) (ha : Awake ex c (s.ctx c))
    (hi : TablesInv ex s) : TablesInv ex (schedule s c ref) := by
  -- first the reference is recorded; a queued job of `c` under that reference has the same key, and stays recorded
  have h1 : TablesInv ex (upd s c fun x => { x with jobs := (ref, jobKey (s.ctx c).path ref) :: x.jobs.filter fun e => e.1 ≠ ref }) := by
    refine tinv_upd c _ hi rfl (fun p hp => ?_) (fun _ _ _ h => h) (fun _ => ha) fun e he hec => ⟨?_, ha⟩
    · rcases List.mem_cons.1 hp with rfl | hp
      · rfl
      · exact hi.keyed c p (List.mem_filter.1 hp).1
    · obtain ⟨p, hp, hpe⟩ := (hi.jobs e he).2.1
      rw [hec] at hp
      by_cases hr : p.1 = ref
      · exact ⟨_, List.mem_cons_self .., by rw [← hpe, hi.keyed c p hp, hr]⟩
      · exact ⟨p, List.mem_cons_of_mem _ (List.mem_filter.2 ⟨hp, by simpa using hr⟩), hpe⟩
  -- then the job is queued, unless its key is there already
  refine iteInduction (motive := TablesInv ex) (fun _ => h1) fun _ => ⟨h1.keyed, h1.subs, forall_mem_snoc h1.jobs ⟨hc, ?_⟩⟩
  rw [upd_ctx_self]
  exact ⟨⟨_, List.mem_cons_self .., rfl⟩, ha⟩

theorem tinv_cancel {ex : Option Cid} {s : Sys} (c : Cid) (ref key : String)
    (hl : (s.ctx c).jobs.lookup ref = some key) (hi : TablesInv ex s) :
    TablesInv ex (upd { s with jobTable := s.jobTable.filter fun e => e.1 ≠ key } c fun x =>
      { x with jobs := x.jobs.filter fun e => e.1 ≠ ref }) := by
  have hmem : (ref, key) ∈ (s.ctx c).jobs := List.mem_of_lookup_eq_some hl
  refine tinv_upd c _ (tinv_filterJobs _ hi) rfl (fun p hp => hi.keyed c p (List.mem_filter.1 hp).1) (fun _ _ _ h => h)
    (fun ⟨e, he, hec⟩ => hec ▸ (hi.subs e he).2.2) fun e he hec => ?_
  obtain ⟨hm, hf⟩ := List.mem_filter.1 he
  obtain ⟨_, ⟨p, hp, hpe⟩, haw⟩ := hi.jobs e hm
  rw [hec] at hp haw
  refine ⟨⟨p, List.mem_filter.2 ⟨hp, ?_⟩, hpe⟩, haw⟩
  -- a record of `c` under `ref` has the key `key`, which is not the key of `e`
  simp only [decide_eq_true_eq] at hf ⊢
  have hkey : key = jobKey (s.ctx c).path ref := hi.keyed c _ hmem
  exact fun hr => hf (by rw [← hpe, hi.keyed c p hp, hr, hkey])

/-- `Scheduler.Clear` of `c`: no queued job is owned by `c` afterwards.  So once its subscriptions are gone too (`hs`), `c`
needs no exception any more (`ho` with `ex' = none`). -/
theorem tinv_clearJobs {ex ex' : Option Cid} {s : Sys} (c : Cid) (hi : TablesInv ex s)
    (ho : ∀ d x, d ≠ c → Awake ex d x → Awake ex' d x) (hs : (∃ e ∈ s.subs, e.2.2 = c) → Awake ex' c (s.ctx c)) :
    TablesInv ex' (clearJobs s c) := by
  refine tinv_upd c (fun x => { x with jobs := [] }) (tinv_filterJobs _ hi) rfl (fun p hp => by cases hp) ho hs
    fun e he hec => ?_
  -- a job of `c` is recorded by `c`, so its key was among those removed
  obtain ⟨hm, hf⟩ := List.mem_filter.1 he
  obtain ⟨p, hp, hpe⟩ := (hi.jobs e hm).2.1
  have : ((s.ctx c).jobs.map (·.2)).contains e.1 = true := by
    rw [List.contains_iff_mem]; exact List.mem_map.2 ⟨p, hec ▸ hp, hpe⟩
  rw [this] at hf; cases hf

theorem tinv_handlerInv : HandlerInv TablesInv where
  frame hf hi := tinv_agree hf.tlife hi hf.subs hf.jobTable
  pause hi c b _ := tinv_agree (agree_upd _ c _) hi
  kids hi c g _ := tinv_agree (agree_upd _ c _) hi
  create {m s} hi nc _ _ hj _ := by
    have old : ∀ d, d < s.n → (create s nc).ctx d = s.ctx d := fun d hd => create_ctx_old s _ (Nat.ne_of_lt hd)
    refine ⟨fun d p hp => ?_, fun e he => ?_, fun e he => ?_⟩
    · by_cases h : d = s.n
      · rw [h, create_ctx_new, hj] at hp; cases hp
      · rw [create_ctx_old s _ h] at hp ⊢; exact hi.keyed d p hp
    · obtain ⟨h1, h2⟩ := hi.subs e he
      exact ⟨Nat.lt_succ_of_lt h1, by rw [old _ h1]; exact h2⟩
    · obtain ⟨h1, h2⟩ := hi.jobs e he
      exact ⟨Nat.lt_succ_of_lt h1, by rw [old _ h1]; exact h2⟩
  sub {m s} hi c ty hc ha := by
    refine ⟨hi.keyed, ?_, hi.jobs⟩
    unfold esSub
    split
    · exact hi.subs
    · exact forall_mem_snoc hi.subs ⟨hc, rfl, ha⟩
  subsFilter hi p := ⟨hi.keyed, fun e he => hi.subs e (List.mem_filter.1 he).1, hi.jobs⟩
  schedule hi c ref hc ha := tinv_schedule c ref hc ha hi
  cancel hi c ref key hl := tinv_cancel c ref key hl hi
  clearJobs hi c := tinv_clearJobs c hi (fun _ _ _ h => h) fun ⟨e, he, hec⟩ => hec ▸ (hi.subs e he).2.2
  unregister hi p := ⟨hi.keyed, hi.subs, hi.jobs⟩
  dying hi c g _ := tinv_life c _ hi (fun _ _ _ h => h) (awake_of_state fun h => by cases h)
  unflag hi c _ := tinv_agree (agree_upd _ c _) hi
  mark hi c _ _ := tinv_life c _ hi (fun _ _ _ h => h.of_none) (.inl rfl)
  finish {s c} hi hr :=
    -- `c` holds no subscription: it would be under the path of `c`
    tinv_clearJobs c hi (fun _ _ hd h => h.drop hd) fun ⟨e, he, hec⟩ => absurd (hec ▸ (hi.subs e he).2.1).symm (hr.2.1 e he)
  zombify hi _ := tinv_life _ _ hi (fun _ _ hd h => h.drop hd) (.inr (.inr rfl))
  revive hi _ := tinv_life _ _ hi (fun _ _ hd h => h.drop hd) (awake_of_state fun h => by cases h)

theorem tinv_init (f : Bool) : TablesInv none (init f) := by
  refine ⟨fun c p hp => ?_, fun _ => nofun, fun _ => nofun⟩
  rcases init_ctx f c with hc | hc <;> rw [hc] at hp <;> cases hp

end Vivid.ActorSys
