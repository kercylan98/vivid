import Vivid.Proofs.ActorSysValid

/-! Counting the copies of a user message in M10: `total i s` is the number of envelopes carrying
id `i` in the mailboxes and stashes of the existing contexts plus the number of times `i` is on the
published dead-letter list.  `Acct s s' d` is the handler relation: `s'` is well-formed, nothing
shrank, and `total i s' = total i s + [i handed out on the way] + d i`.  It is carried through every
function of M10 once; that a message is *held* (`Held`) is read off the count (`held_of_total`).
What a handler adds is a multiple of whether the envelope it was given carries `i` (`times e k`): `k` is 0 for
almost every function, the number of `Stash` calls for a behaviour, 1 for a dead-letter notice or its publication.
Property theorems in `Props/C03Global.lean` and `Props/C03Exact.lean`. -/
namespace Vivid.ActorSys

def cntC (i : Nat) (x : Ctx) : Nat := (mail x).countP (fun e => carries i e)

def sumTo (n : Nat) (g : Nat → Nat) : Nat := ((List.range n).map g).sum

def total (i : Nat) (s : Sys) : Nat := sumTo s.n (fun c => cntC i (s.ctx c)) + s.deadLetters.count i

theorem sumTo_succ (n : Nat) (g : Nat → Nat) : sumTo (n + 1) g = sumTo n g + g n := by
  simp [sumTo, List.range_succ]

theorem sumTo_congr (n : Nat) (g g' : Nat → Nat) (h : ∀ c, c < n → g' c = g c) : sumTo n g' = sumTo n g :=
  congrArg List.sum (List.map_congr_left fun c hc => h c (List.mem_range.mp hc))

theorem sumTo_update (n : Nat) (g g' : Nat → Nat) (c : Nat) (hc : c < n) (h : ∀ d, d ≠ c → g' d = g d) :
    sumTo n g' + g c = sumTo n g + g' c := by
  induction n with
  | zero => cases hc
  | succ k ih =>
    rw [sumTo_succ, sumTo_succ]
    by_cases hck : c = k
    · rw [sumTo_congr k g g' fun d hd => h d (hck ▸ Nat.ne_of_lt hd), hck]
      exact Nat.add_right_comm ..
    · have := ih (by omega)
      rw [h k (Ne.symm hck)]
      omega

theorem sumTo_pos {n : Nat} {g : Nat → Nat} : 0 < sumTo n g ↔ ∃ c, c < n ∧ 0 < g c := by
  simp only [sumTo, List.sum_pos_iff_exists_pos_nat, List.mem_map, List.mem_range]
  exact ⟨fun ⟨_, ⟨c, hc, rfl⟩, h⟩ => ⟨c, hc, h⟩, fun ⟨c, hc, h⟩ => ⟨_, ⟨c, hc, rfl⟩, h⟩⟩

/-- Held is what the count says: no `Valid` is needed in this direction. -/
theorem held_of_total {i : Nat} {s : Sys} (h : 0 < total i s) : Held i s := by
  unfold total at h
  by_cases hd : 0 < s.deadLetters.count i
  · exact Or.inr (List.count_pos_iff.mp hd)
  · obtain ⟨c, _, hc⟩ := sumTo_pos.mp (show 0 < sumTo s.n (fun c => cntC i (s.ctx c)) by omega)
    obtain ⟨e, he, hcar⟩ := List.countP_pos_iff.mp hc
    exact Or.inl ⟨c, e, he, hcar⟩

/-- Conversely the mail of a context is counted because only existing contexts hold mail. -/
theorem total_of_held {i : Nat} {s : Sys} (hv : Valid s) (h : Held i s) : 0 < total i s := by
  rcases h with ⟨c, e, he, hcar⟩ | h
  · exact Nat.add_pos_left (sumTo_pos.mpr ⟨c, (hv.ctx c).lt_of_mem he, List.countP_pos_iff.mpr ⟨e, he, hcar⟩⟩) _
  · exact Nat.add_pos_right _ (List.count_pos_iff.mpr h)

def freshI (s s' : Sys) (i : Nat) : Nat := if s.nextEnv ≤ i ∧ i < s'.nextEnv then 1 else 0

/-- Adjacent intervals of ids: `validId` and `freshI` are both such indicators. -/
theorem interval_add {a b c : Nat} (h1 : a ≤ b) (h2 : b ≤ c) (i : Nat) :
    (if a ≤ i ∧ i < c then 1 else 0) = (if a ≤ i ∧ i < b then 1 else 0) + (if b ≤ i ∧ i < c then 1 else 0) := by
  -- `i` is below `b` or not: one summand is 0, the other has the condition of the left-hand side
  by_cases hb : i < b
  · simp only [hb, Nat.lt_of_lt_of_le hb h2, Nat.not_le.mpr hb, and_true, if_false, Nat.add_zero]
  · simp only [hb, Nat.not_lt.mp hb, Nat.le_trans h1 (Nat.not_lt.mp hb), and_false, true_and, if_false, Nat.zero_add]

theorem freshI_trans {a b c : Sys} (h1 : a.nextEnv ≤ b.nextEnv) (h2 : b.nextEnv ≤ c.nextEnv) (i : Nat) :
    freshI a c i = freshI a b i + freshI b c i := interval_add h1 h2 i

theorem freshI_same {a b : Sys} (h : b.nextEnv = a.nextEnv) (i : Nat) : freshI a b i = 0 := by
  unfold freshI; rw [h]; split
  · omega
  · rfl

structure Acct (s s' : Sys) (d : Nat → Nat) : Prop where
  valid : Valid s'
  n_le : s.n ≤ s'.n
  next_le : s.nextEnv ≤ s'.nextEnv
  cnt : ∀ i, total i s' = total i s + freshI s s' i + d i

abbrev Acct0 (s s' : Sys) : Prop := Acct s s' (fun _ => 0)

theorem Acct.of_next_eq {s s' : Sys} {d : Nat → Nat} (valid : Valid s') (n_le : s.n ≤ s'.n) (hx : s'.nextEnv = s.nextEnv)
    (cnt : ∀ i, total i s' = total i s + d i) : Acct s s' d :=
  ⟨valid, n_le, Nat.le_of_eq hx.symm, fun i => by rw [freshI_same hx, cnt i]; rfl⟩

theorem Acct.refl {s : Sys} (h : Valid s) : Acct0 s s := .of_next_eq h (Nat.le_refl _) rfl (fun _ => rfl)

theorem Acct.trans {a b c : Sys} {d1 d2 : Nat → Nat} (h1 : Acct a b d1) (h2 : Acct b c d2) :
    Acct a c (fun i => d1 i + d2 i) :=
  ⟨h2.valid, Nat.le_trans h1.n_le h2.n_le, Nat.le_trans h1.next_le h2.next_le, fun i => by
    rw [h2.cnt i, h1.cnt i, freshI_trans h1.next_le h2.next_le i]; omega⟩

theorem Acct.congr {s s' : Sys} {d d' : Nat → Nat} (h : Acct s s' d) (hd : ∀ i, d i = d' i) : Acct s s' d' :=
  ⟨h.valid, h.n_le, h.next_le, fun i => by rw [h.cnt i, hd i]⟩

theorem Acct.trans0 {a b c : Sys} {d : Nat → Nat} (h1 : Acct0 a b) (h2 : Acct b c d) : Acct a c d :=
  (h1.trans h2).congr (fun _ => Nat.zero_add _)

theorem Acct.trans0' {a b c : Sys} {d : Nat → Nat} (h1 : Acct a b d) (h2 : Acct0 b c) : Acct a c d :=
  h1.trans h2

theorem acct_ite {s a b : Sys} {d : Nat → Nat} {c : Prop} [Decidable c] (ha : Acct s a d) (hb : Acct s b d) :
    Acct s (if c then a else b) d := by split <;> assumption

theorem Acct.lt {s s' : Sys} {d : Nat → Nat} (h : Acct s s' d) {x : Nat} (hx : x < s.n) : x < s'.n :=
  Nat.lt_of_lt_of_le hx h.n_le

theorem CurOK.ext {s s' : Sys} {d : Nat → Nat} {self : Cid} {cur : Env} (h : CurOK s self cur) (ha : Acct s s' d) :
    CurOK s' self cur := ⟨ha.lt h.self_lt, h.env.mono ha.n_le ha.next_le⟩

/-! ### The elementary state changes

`acct_X` starts at the state it is given; `Acct.X` appends the step to an account that started at `a`, with the side
conditions stated at `a` (all of them are bounds by `a.n`, and `n` only grows); where only the second form exists (`tell`,
`upd_same`), an account that starts here is `(Acct.refl hv).X`. -/

theorem acct_tables {s : Sys} (s' : Sys) (hv : Valid s) (h1 : s'.n = s.n) (h2 : s'.ctx = s.ctx)
    (h3 : s'.nextEnv = s.nextEnv) (h4 : s'.deadLetters = s.deadLetters) (hreg : ∀ e ∈ s'.registry, e.2 < s.n)
    (hrefs : ∀ e ∈ s'.refs, ∀ c, e.2.2 = some c → c < s.n) (hsubs : ∀ e ∈ s'.subs, e.2.2 < s.n) : Acct0 s s' :=
  .of_next_eq
    ⟨by rw [h1]; exact hv.pos, by rw [h1, h2, h3]; exact hv.ctx, by rw [h1]; exact hreg, by rw [h1]; exact hrefs,
     by rw [h1]; exact hsubs, by rw [h3, h4]; exact hv.dls⟩
    (Nat.le_of_eq h1.symm) h3 (fun i => by unfold total; rw [h1, h2, h4]; rfl)

def vcore (s : Sys) := (s.n, s.ctx, s.nextEnv, s.deadLetters, s.registry, s.refs, s.subs)

/-- `hs` holds by `rfl` for a record update of other fields (an auto-param: checked after `s'` has been read off the goal). -/
theorem Acct.same {a s s' : Sys} {d : Nat → Nat} (h : Acct a s d) (hs : vcore s' = vcore s := by rfl) : Acct a s' d := by
  simp only [vcore, Prod.mk.injEq] at hs
  obtain ⟨h1, h2, h3, h4, h5, h6, h7⟩ := hs
  exact h.trans0' (acct_tables s' h.valid h1 h2 h3 h4 (by rw [h5]; exact h.valid.reg) (by rw [h6]; exact h.valid.refs)
    (by rw [h7]; exact h.valid.subs))

theorem Acct.say {a s : Sys} {d : Nat → Nat} (h : Acct a s d) (e : String) : Acct a (say s e) d := h.same

theorem total_upd (i : Nat) (s : Sys) (c : Cid) (f : Ctx → Ctx) (hc : c < s.n) :
    total i (upd s c f) + cntC i (s.ctx c) = total i s + cntC i (f (s.ctx c)) := by
  have h := sumTo_update s.n (fun d => cntC i (s.ctx d)) (fun d => cntC i ((upd s c f).ctx d)) c hc
    (fun d hd => by rw [upd_ctx_other hd])
  rw [upd_ctx_self] at h
  have e1 : total i (upd s c f) = sumTo s.n (fun d => cntC i ((upd s c f).ctx d)) + s.deadLetters.count i := rfl
  have e2 : total i s = sumTo s.n (fun d => cntC i (s.ctx d)) + s.deadLetters.count i := rfl
  rw [e1, e2]
  omega

theorem acct_upd {s : Sys} {d : Nat → Nat} (c : Cid) (f : Ctx → Ctx) (hv : Valid s) (hc : c < s.n)
    (hf : CtxOK s.n s.nextEnv c (f (s.ctx c))) (hd : ∀ i, cntC i (f (s.ctx c)) = cntC i (s.ctx c) + d i) :
    Acct s (upd s c f) d :=
  .of_next_eq (valid_upd c f hv hf) (Nat.le_refl _) rfl (fun i => by
    have := total_upd i s c f hc
    rw [hd i] at this
    omega)

/-- An update that touches none of the fields `CtxOK` looks at (of any context, existing or not).  `hf` holds by `rfl`
for a record update of other fields; it is an auto-param so that it is checked after `f` has been read off the goal. -/
theorem Acct.upd_same {a s : Sys} {d : Nat → Nat} (h : Acct a s d) (c : Cid) (f : Ctx → Ctx)
    (hf : ∀ x, sameRefs (f x) x ∧ mail (f x) = mail x := by exact fun _ => ⟨⟨rfl, rfl, rfl⟩, rfl⟩) :
    Acct a (upd s c f) d := by
  have hv := h.valid
  refine h.trans0' (.of_next_eq (valid_upd c f hv ((hv.ctx c).same (hf _).1 (hf _).2)) (Nat.le_refl _) rfl (fun i => ?_))
  refine congrArg (· + s.deadLetters.count i) (sumTo_congr s.n _ _ (fun d _ => ?_))
  by_cases h : d = c
  · subst h; rw [upd_ctx_self]; unfold cntC; rw [(hf _).2]
  · rw [upd_ctx_other h]

/-- `k` copies of the message `e` carries, as a change of the count of `i`. -/
def times (e : Env) (k : Nat) (i : Nat) : Nat := if carries i e = true then k else 0

theorem acct_ite2 {s a b : Sys} {e : Env} {ka kb : Nat} {c : Prop} [Decidable c] (ha : Acct s a (times e ka))
    (hb : Acct s b (times e kb)) : Acct s (if c then a else b) (times e (if c then ka else kb)) := by
  split <;> assumption

theorem Acct.times0 {s s' : Sys} (h : Acct0 s s') (e : Env) : Acct s s' (times e 0) := h.congr (fun _ => (ite_self 0).symm)

theorem Acct.plain {s s' : Sys} {e : Env} {k : Nat} (h : Acct s s' (times e k)) (hp : plain e.msg = true) : Acct0 s s' :=
  h.congr (fun i => if_neg (by rw [carries_plain hp]; exact Bool.false_ne_true))

/-- A context gains the envelope `e` and is otherwise the same, as far as `CtxOK` and the count can see. -/
theorem acct_gain {s : Sys} (c : Cid) (f : Ctx → Ctx) {e : Env} (hv : Valid s) (hc : c < s.n) (he : EnvOK s.n s.nextEnv c e)
    (hr : sameRefs (f (s.ctx c)) (s.ctx c)) (hm : (mail (f (s.ctx c))).Perm (e :: mail (s.ctx c))) :
    Acct s (upd s c f) (times e 1) :=
  acct_upd c f hv hc
    ((hv.ctx c).sub hc hr fun e' h => (List.mem_cons.mp (hm.mem_iff.mp h)).symm.imp_right fun h : e' = e => h ▸ he)
    (fun i => by unfold cntC times; rw [hm.countP_eq, List.countP_cons, Nat.add_comm])

theorem acct_enqueue {s : Sys} (c : Cid) (e : Env) (hv : Valid s) (hc : c < s.n) (he : EnvOK s.n s.nextEnv c e) :
    Acct s (enqueue s c e) (times e 1) :=
  acct_gain c (push e) hv hc he (push_fix e _) (mail_push e _)

/-- `Stash`: the one action that copies the current envelope. -/
theorem acct_stash {s : Sys} (self : Cid) (cur : Env) (hv : Valid s) (hc : CurOK s self cur) :
    Acct s (upd s self (fun x => { x with stash := x.stash ++ [cur] })) (times cur 1) :=
  acct_gain self _ hv hc.self_lt hc.env ⟨rfl, rfl, rfl⟩
    (((List.perm_append_singleton cur _).append_left _).trans List.perm_middle)

theorem envOK_dlEnv {n nx : Nat} {e : Env} (hpos : 0 < n) (hids : ∀ i, carries i e = true → i < nx) :
    EnvOK n nx 0 (dlEnv e) :=
  ⟨fun d hd => by cases hd; exact hpos, trivial, fun h => absurd rfl h,
   fun i hi => hids i (by rw [← carries_dlEnv]; exact hi)⟩

theorem acct_deadLetter {s : Sys} {e : Env} (hv : Valid s) (hid : ∀ i, carries i e = true → i < s.nextEnv) :
    Acct s (deadLetter s e) (times e 1) :=
  (acct_enqueue 0 (dlEnv e) hv hv.pos (envOK_dlEnv hv.pos hid)).congr (fun i => by unfold times; rw [carries_dlEnv])

/-- Enqueue into a state whose id counter was advanced to `nx`, of an envelope that carries exactly the ids taken:
the new copies are the fresh ids, nothing else changes. -/
theorem acct_send {s : Sys} {nx : Nat} {e : Env} (c : Cid) (hv : Valid s) (hnx : s.nextEnv ≤ nx) (hc : c < s.n)
    (he : EnvOK s.n nx c e) (hcar : ∀ i, carries i e = true ↔ s.nextEnv ≤ i ∧ i < nx) :
    Acct0 s (enqueue { s with nextEnv := nx } c e) := by
  have h := acct_enqueue c e (valid_next hv hnx) hc he
  refine ⟨h.valid, h.n_le, hnx, fun i => ?_⟩
  have hf : freshI s (enqueue { s with nextEnv := nx } c e) i = times e 1 i :=
    ite_congr (propext (hcar i).symm) (fun _ => rfl) (fun _ => rfl)
  have h0 : freshI { s with nextEnv := nx } (enqueue { s with nextEnv := nx } c e) i = 0 := freshI_same rfl i
  rw [h.cnt i, h0, hf]
  show total i s + 0 + _ = total i s + _ + 0
  omega

/-- `resolve` may fill a ref-object cache from the registry and changes nothing else; what it names exists. -/
theorem acct_resolve {s : Sys} (t : Target) (hv : Valid s) (ht : targetOK s.n t) :
    Acct0 s (resolve s t).1 ∧ ∀ c, (resolve s t).2 = some c → c < s.n := by
  have same := Acct.refl hv
  have dest : ∀ {c}, c < s.n → ∀ d, some c = some d → d < s.n := fun h d hd => by cases hd; exact h
  cases t with
  | own c => exact ⟨same, dest ht⟩
  | nobody => exact ⟨same, dest hv.pos⟩
  | path p =>
    simp only [resolve]
    split
    · exact ⟨same, dest hv.pos⟩
    · split
      · rename_i c hc
        exact ⟨same, dest (hv.reg _ (List.mem_of_lookup_eq_some hc))⟩
      · exact ⟨same, nofun⟩
  | refobj r =>
    simp only [resolve]
    split
    · exact ⟨same, dest hv.pos⟩
    · rename_i p c hc
      exact ⟨same, dest (hv.refs _ (List.mem_of_lookup_eq_some hc) c rfl)⟩
    · split
      · exact ⟨same, dest hv.pos⟩
      · split
        · rename_i c hc
          have hcn : c < s.n := hv.reg _ (List.mem_of_lookup_eq_some hc)
          refine ⟨acct_tables _ hv rfl rfl rfl rfl hv.reg (fun e he d hd => ?_) hv.subs, dest hcn⟩
          rcases List.mem_cons.mp he with he | he
          · rw [he] at hd; cases hd; exact hcn
          · exact hv.refs e (List.mem_filter.mp he).1 d hd
        · exact ⟨same, nofun⟩

theorem Acct.tell {a s : Sys} {d : Nat → Nat} (h : Acct a s d) (sys : Bool) (sender : Cid) (t : Target) (m : Msg)
    (ht : targetOK a.n t) (hs : sender < a.n) (hm : msgOK a.n m := by exact trivial) (hdl : isDL m = false := by rfl) :
    Acct a (tell s sys (some sender) t m) d := by
  rw [tell_explicit]
  obtain ⟨h01, hdest⟩ := acct_resolve t h.valid (targetOK_mono ht h.n_le)
  generalize resolve s t = r at h01 hdest ⊢
  obtain ⟨s1, c?⟩ := r
  -- the account up to the state in which the envelope is made
  have h1 : Acct a s1 d := h.trans0' h01
  have hcar := carries_tellEnv s1 sys (some sender) hdl
  have hnx : s1.nextEnv ≤ tellNext s1 m := by
    cases m with
    | user _ => exact Nat.le_succ _
    | _ => exact Nat.le_refl _
  have he : ∀ c, EnvOK s1.n (tellNext s1 m) c (tellEnv s1 sys (some sender) m) :=
    fun c => ⟨fun d hd => by cases hd; exact h1.lt hs, msgOK_mono hm h1.n_le, fun _ => hdl, fun i hi => ((hcar i).mp hi).2⟩
  refine h1.trans0' ?_
  cases c? with
  | some c => exact acct_send c h1.valid hnx (h01.lt (hdest c rfl)) (he c) hcar
  | none =>
    rw [deadLetter_eq]
    exact acct_send 0 h1.valid hnx h1.valid.pos (envOK_dlEnv h1.valid.pos (he 0).ids)
      (fun i => by rw [carries_dlEnv]; exact hcar i)

theorem Acct.tellAll {a s : Sys} {d : Nat → Nat} (h : Acct a s d) (sys : Bool) (sender : Cid) (ts : List Cid) (m : Msg)
    (ht : ∀ t ∈ ts, t < a.n) (hs : sender < a.n) (hm : msgOK a.n m := by exact trivial) (hdl : isDL m = false := by rfl) :
    Acct a (tellAll s sys (some sender) ts m) d :=
  List.foldlRecOn (motive := fun x => Acct a x d) ts _ h fun _ hx t htm => hx.tell sys sender (.own t) m (ht t htm) hs hm hdl

theorem acct_create {s : Sys} (nc : Ctx) (hv : Valid s) (hp : ∀ p, nc.parent = some p → p < s.n)
    (hk : nc.children = []) (hw : nc.watchers = []) (hm : mail nc = []) : Acct0 s (create s nc) := by
  refine .of_next_eq ⟨Nat.succ_pos _, fun c => ?_,
    List.forall_mem_cons.2 ⟨Nat.lt_succ_self _, fun e he => Nat.lt_succ_of_lt (hv.reg e he)⟩,
    fun e he c hc => Nat.lt_succ_of_lt (hv.refs e he c hc), fun e he => Nat.lt_succ_of_lt (hv.subs e he), hv.dls⟩
    (Nat.le_succ _) rfl (fun i => ?_)
  · show CtxOK (s.n + 1) s.nextEnv c (if c = s.n then nc else s.ctx c)
    split
    · exact ctxOK_empty hk hw hm (fun p h => Nat.lt_succ_of_lt (hp p h))
    · exact (hv.ctx c).mono (Nat.le_succ _) (Nat.le_refl _)
  · show sumTo (s.n + 1) (fun d => cntC i (if d = s.n then nc else s.ctx d)) + s.deadLetters.count i = total i s + 0
    rw [sumTo_succ, sumTo_congr s.n (fun d => cntC i (s.ctx d)) _ (fun d hd => by rw [if_neg (Nat.ne_of_lt hd)])]
    simp only [if_true, cntC, hm, List.countP_nil]
    rfl

theorem chainOK_cons {n : Nat} {f : Cid} {ts : List Cid} {ch : List (Cid × List Cid)} (hf : f < n) (ht : ∀ t ∈ ts, t < n)
    (h : chainOK n ch) : chainOK n ((f, ts) :: ch) := by
  intro p hp
  rcases List.mem_cons.mp hp with rfl | hp
  · exact ⟨hf, ht⟩
  · exact h p hp

theorem acct_failed {s : Sys} (self : Cid) (hv : Valid s) (hself : self < s.n) : Acct0 s (failed s self) :=
  (((Acct.refl hv).upd_same self _).tell true self (upTarget (s.ctx self)) (.supervise [(self, [])] [])
    (upTarget_ok (hv.ctx self)) hself (chainOK_cons hself (List.forall_mem_nil _) (List.forall_mem_nil _))).say _

theorem acct_schedule {s : Sys} (self : Cid) (ref : String) (hv : Valid s) : Acct0 s (schedule s self ref) := by
  have h1 := (Acct.refl hv).upd_same self
    (fun x => { x with jobs := (ref, jobKey (s.ctx self).path ref) :: x.jobs.filter (fun e => e.1 ≠ ref) })
  exact acct_ite h1 h1.same

theorem acct_clearJobs {s : Sys} (self : Cid) (hv : Valid s) : Acct0 s (clearJobs s self) := by
  unfold clearJobs
  exact (Acct.refl hv).same.upd_same self _

theorem acct_actorOf {s : Sys} (parent : Cid) (name : String) (script strat hooks : Nat) (ds : List Nat)
    (hv : Valid s) (hp : parent < s.n) : Acct0 s (actorOf s parent name script strat hooks ds) := by
  unfold actorOf
  refine acct_ite ((Acct.refl hv).say _) (acct_ite ((Acct.refl hv).say _) ?_)
  dsimp only
  split
  · exact (Acct.refl hv).say _
  · let path := joinPath (s.ctx parent).path name
    let s1 := create s (newCtx path name parent script strat hooks ds)
    have h1 : Acct0 s s1 := acct_create _ hv (fun p h => by cases h; exact hp) rfl rfl rfl
    -- from here on the account starts at `s1`, where the child `s.n` exists
    have hx := h1.valid.ctx parent
    have hc : s.n < s1.n := Nat.lt_succ_self _
    have hp1 : parent < s1.n := Nat.lt_succ_of_lt hp
    have h2 : Acct0 s1 (upd s1 parent (fun x => { x with children := x.children.filter (fun k => (s.ctx k).path ≠ path) ++ [s.n] })) :=
      acct_upd parent _ h1.valid hp1 { hx with children := forall_mem_snoc (forall_mem_filter hx.children) hc }
        (fun _ => rfl)
    have h4 := (h2.tell true parent (.own s.n) .onLaunch hc hp1).say s!"spawned:{s.n}:{path}"
    exact h1.trans0 (acct_ite (h4.tell true parent (.own s.n) (.onKill false) hc hp1) h4)

def stashCount : List Action → Nat
  | [] => 0
  | .panic :: _ => 0
  | .stash :: r => stashCount r + 1
  | _ :: r => stashCount r

theorem acct_foldl_enqueue (self : Cid) (l : List Env) :
    ∀ s, Valid s → self < s.n → (∀ e ∈ l, EnvOK s.n s.nextEnv self e) →
      Acct s (l.foldl (fun acc e => enqueue acc self e) s) (fun i => l.countP (fun e => carries i e)) := by
  induction l with
  | nil => intro s hv _ _; exact Acct.refl hv
  | cons e0 t ih =>
    intro s hv hself hl
    have h1 := acct_enqueue self e0 hv hself (hl e0 (List.mem_cons_self ..))
    refine (h1.trans (ih _ h1.valid hself fun e he => hl e (List.mem_cons_of_mem _ he))).congr fun i => ?_
    simp only [List.countP_cons, times]; omega

theorem acct_unstash {s : Sys} (self : Cid) (cnt : Nat) (hv : Valid s) (hself : self < s.n) :
    Acct0 s (upd (((s.ctx self).stash.take cnt).foldl (fun acc e => enqueue acc self e) s) self
      (fun x => { x with stash := x.stash.drop cnt })) := by
  have ha := acct_foldl_enqueue self ((s.ctx self).stash.take cnt) s hv hself
    (fun e he => (hv.ctx self).envs e (List.mem_append_right _ (List.mem_of_mem_take he)))
  have hst : ((((s.ctx self).stash.take cnt).foldl (fun acc e => enqueue acc self e) s).ctx self).stash = (s.ctx self).stash :=
    (congrArg Ctx.stash (foldl_enqueue_ctx _ s self)).trans rfl
  generalize ((s.ctx self).stash.take cnt).foldl (fun acc e => enqueue acc self e) s = s' at ha hst ⊢
  have hn' := ha.lt hself
  refine ⟨valid_upd self _ ha.valid ((ha.valid.ctx self).sub hn' ⟨rfl, rfl, rfl⟩ (fun e he => Or.inl ?_)), ha.n_le, ha.next_le,
    fun i => ?_⟩
  · rcases List.mem_append.mp he with h | h
    · exact List.mem_append_left _ h
    · exact List.mem_append_right _ (List.mem_of_mem_drop h)
  · -- what the enqueues added is what the `drop` takes away
    have hu := total_upd i s' self (fun x => { x with stash := x.stash.drop cnt }) hn'
    have hc := ha.cnt i
    change _ = _ + freshI s s' i + 0
    have := congrArg (List.countP (fun e => carries i e)) (List.take_append_drop cnt (s'.ctx self).stash)
    rw [List.countP_append, hst] at this
    simp only [cntC, mail, List.countP_append, hst] at hu
    omega

theorem acct_runActions (self : Cid) (cur : Env) (acts : List Action) :
    ∀ s, Valid s → CurOK s self cur →
      Acct s (runActions s self cur acts).s (times cur (stashCount acts)) := by
  induction acts with
  | nil => intro s hv _; exact (Acct.refl hv).times0 cur
  | cons a rest ih =>
    intro s hv hc
    have h0 := Acct.refl hv
    have step : ∀ s1, Acct0 s s1 → Acct s (runActions s1 self cur rest).s (times cur (stashCount rest)) :=
      fun s1 h1 => h1.trans0 (ih s1 h1.valid (hc.ext h1))
    have tgt := fun t => evalTarget_ok self cur t hv hc
    cases a with
    | panic => exact h0.times0 cur
    | tell t k => exact step _ (h0.tell false self _ (.user k) (tgt t) hc.self_lt)
    | spawn name script kind decisions hooks => exact step _ (acct_actorOf self name script kind hooks decisions hv hc.self_lt)
    | kill t poison => exact step _ (h0.tell (!poison) self _ (.onKill poison) (tgt t) hc.self_lt)
    | stash =>
      have h1 := acct_stash self cur hv hc
      refine (h1.trans (ih _ h1.valid (hc.ext h1))).congr (fun i => ?_)
      simp only [times, stashCount]
      split <;> omega
    | unstash n => exact step _ (acct_unstash self _ hv hc.self_lt)
    | watch t => exact step _ (h0.tell true self _ .watch (tgt t) hc.self_lt)
    | unwatch t => exact step _ (h0.tell true self _ .unwatch (tgt t) hc.self_lt)
    | become _ | unbecome => exact step _ (h0.upd_same self _)
    | sub ty =>
      refine step _ (acct_tables _ hv rfl rfl rfl rfl hv.reg hv.refs ?_)
      unfold esSub
      split
      · exact hv.subs
      · exact forall_mem_snoc hv.subs hc.self_lt
    | unsub _ | unsubAll =>
      exact step _ (acct_tables _ hv rfl rfl rfl rfl hv.reg hv.refs (forall_mem_filter hv.subs))
    | pub ty =>
      refine step _ (h0.same.tellAll false 0 (esTargets s.subs ty) (.event ty s.nextPub) (fun t ht => ?_) hv.pos)
      obtain ⟨e, he, rfl⟩ := mem_esTargets ht
      exact hv.subs e he
    | sched kind ref k => exact step _ (acct_schedule self ref hv)
    | cancel ref =>
      simp only [runActions]
      split
      · exact step _ (h0.say _)
      · exact step _ (((h0.same).upd_same self _).say _)
    | schedClear => exact step _ (acct_clearJobs self hv)
    | cron valid ref =>
      cases valid with
      | true => exact step _ (acct_schedule self ref hv)
      | false => exact step _ (h0.say _)

theorem acct_publish {s : Sys} (x : Nat) (hv : Valid s) (hx : x < s.nextEnv) :
    Acct s { s with deadLetters := s.deadLetters ++ [x] } (fun i => if x = i then 1 else 0) := by
  refine .of_next_eq ⟨hv.pos, hv.ctx, hv.reg, hv.refs, hv.subs, forall_mem_snoc hv.dls hx⟩ (Nat.le_refl _) rfl (fun i => ?_)
  show sumTo s.n (fun c => cntC i (s.ctx c)) + (s.deadLetters ++ [x]).count i = total i s + _
  rw [List.count_append, List.count_singleton]
  unfold total
  simp only [beq_iff_eq]
  omega

/-- How many copies of the message the current envelope carries `behave` makes: one for each stash call of the rule
that runs, or, at the root, the publication of a dead-letter notice. -/
def behN (s : Sys) (self : Cid) (beh : Nat) (m : Msg) : Nat :=
  if (s.ctx self).zombie then 0
  else if self = 0 then (if isDL m then 1 else 0)
  else match triggerOf m 0 self with
    | none => 0
    | some trig => stashCount (ruleFor ((s.scripts.lookup beh).getD []) trig)

/-- `m` is the message shown to the behaviour; when it is a dead-letter notice it is the current envelope's. -/
theorem acct_behave {s : Sys} (self : Cid) (beh : Nat) (cur : Env) (m : Msg) (hv : Valid s) (hc : CurOK s self cur)
    (hm : isDL m = true → cur.msg = m) : Acct s (behave s self beh cur m).s (times cur (behN s self beh m)) := by
  unfold behave behN
  have h0 := Acct.refl hv
  by_cases hz : (s.ctx self).zombie = true
  · simp only [if_pos hz]; exact h0.times0 cur
  by_cases hr : self = 0
  · simp only [if_neg hz, if_pos hr]
    cases m with
    | onKilled w => exact (acct_ite h0.same h0).times0 cur
    | deadLetter x u d =>
      have hcur := hm rfl
      cases u with
      | false => exact (h0.same.say _).congr (fun i => by simp [times, carries, hcur])
      | true =>
        exact ((acct_publish x hv (hc.env.ids x (by simp [carries, hcur]))).say _).congr (fun i => by simp [times, carries, isDL, hcur])
    | _ => exact h0.times0 cur
  simp only [if_neg hz, if_neg hr]
  cases triggerOf m 0 self with
  | none => exact h0.times0 cur
  | some trig => exact (h0.say _).trans0 (acct_runActions self cur _ _ (h0.say _).valid (hc.ext (h0.say _)))

theorem acct_execRecover {s : Sys} (self : Cid) (beh : Nat) (cur : Env) (m : Msg) (hv : Valid s) (hc : CurOK s self cur)
    (hm : isDL m = true → cur.msg = m) : Acct s (execRecover s self beh cur m) (times cur (behN s self beh m)) := by
  have hb := acct_behave self beh cur m hv hc hm
  have hf := hb.trans0' (acct_failed self hb.valid (hb.lt hc.self_lt))
  refine acct_ite ?_ hb
  cases m with
  | onKill poison => exact hb
  | onKilled w => exact acct_ite hb hf
  | _ => exact hf

theorem acct_cleanup {s : Sys} (self : Cid) (hv : Valid s) (hself : self < s.n) : Acct0 s (cleanup s self) := by
  unfold cleanup
  simp only
  have h1 := (acct_tables (unregister { s with subs := esUnsubAll s.subs (s.ctx self).path } (s.ctx self).path) hv rfl rfl rfl rfl
    (forall_mem_filter hv.reg) hv.refs (forall_mem_filter hv.subs)).tellAll
    true self (s.ctx self).watchers (.onKilled self) (hv.ctx self).watchers hself
  split
  · rename_i p hp
    exact ((h1.tell true self (.own p) (.onKilled self) ((hv.ctx self).parent p hp) hself).say _).upd_same self _
  · exact (h1.say _).upd_same self _

theorem acct_handleRestart {s : Sys} (self : Cid) (hv : Valid s) (hself : self < s.n) : Acct0 s (handleRestart s self) := by
  unfold handleRestart
  have h1 := (Acct.refl hv).upd_same self (fun x => { x with behaviors := [x.script] })
  have h2 := h1.upd_same self (fun x => { x with restarting := none, state := .running, inc := x.inc + 1 })
  refine acct_ite ((h1.upd_same self _).say _) (acct_ite ?_ ?_)
  · have h4 := (h2.upd_same self (fun x => { x with paused := false })).say s!"restarted:{self}"
    exact h4.trans0 (.plain (acct_execRecover self _ _ .onLaunch h4.valid
      ⟨h4.lt hself, fun d hd => by cases hd; exact h4.lt hself, trivial, fun _ => rfl, fun i hi => by cases hi⟩ nofun) rfl)
  · exact ((h2.tell true self (upTarget (s.ctx self)) .onLaunch (upTarget_ok (hv.ctx self)) hself).upd_same self _).say _

theorem acct_childGone {s : Sys} (self : Cid) (beh : Nat) (cur : Env) (who : Cid) (hv : Valid s) (hc : CurOK s self cur)
    (hcur : plain cur.msg = true) : Acct0 s (childGone s self beh cur who) := by
  have hx := hv.ctx self
  have h0 : Acct0 s (upd s self (fun x => { x with children := x.children.filter (· ≠ who) })) :=
    acct_upd self _ hv hc.self_lt { hx with children := forall_mem_filter hx.children }
      (fun _ => rfl)
  exact acct_ite (h0.trans0 (.plain (acct_execRecover self beh cur (.onKilled who) h0.valid (hc.ext h0) nofun) hcur)) (Acct.refl hv)

theorem acct_terminate {s : Sys} (self : Cid) (beh : Nat) (cur : Env) (hv : Valid s) (hc : CurOK s self cur) :
    Acct0 s (terminate s self beh cur) := by
  have h2 := (Acct.refl hv).upd_same self (fun x => { x with state := .killed })
  have hc2 : CurOK (upd s self (fun x => { x with state := .killed })) self { cur with sys := true, msg := .onKilled self } :=
    (hc.ext h2).plain cur.id true (.onKilled self) trivial rfl
  cases hr : (s.ctx self).restarting.isSome with
  | true =>
    rw [terminate_restart beh cur hr]
    have h4 := h2.trans0 (.plain (acct_behave self beh _ (.onKilled self) h2.valid hc2 nofun) rfl)
    have h5 := h4.trans0 (acct_clearJobs self h4.valid)
    exact h5.trans0 (acct_handleRestart self h5.valid (h5.lt hc.self_lt))
  | false =>
    rw [terminate_stop beh cur hr]
    have h4 := h2.trans0 (.plain (acct_execRecover self beh _ (.onKilled self) h2.valid hc2 nofun) rfl)
    have h5 := h4.trans0 (acct_cleanup self h4.valid (h4.lt hc.self_lt))
    exact h5.trans0 (acct_clearJobs self h5.valid)

theorem acct_onKilled {s : Sys} (self : Cid) (beh : Nat) (cur : Env) (who : Cid) (hv : Valid s) (hc : CurOK s self cur)
    (hcur : plain cur.msg = true) : Acct0 s (onKilled s self beh cur who) := by
  rw [onKilled_eq]
  have h1 := acct_childGone self beh cur who hv hc hcur
  exact acct_ite (acct_cleanup self hv hc.self_lt) (acct_ite h1 (h1.trans0 (acct_terminate self beh cur h1.valid (hc.ext h1))))

theorem acct_doKill {s : Sys} (self : Cid) (beh : Nat) (cur : Env) (poison : Bool) (hv : Valid s) (hc : CurOK s self cur) :
    Acct0 s (doKill s self beh cur poison) := by
  unfold doKill
  have h1 := (Acct.refl hv).tellAll (!poison) self (s.ctx self).children (.onKill poison) (hv.ctx self).children hc.self_lt
  have hc' : ∀ {s'}, Acct0 s s' → CurOK s' self { cur with msg := .onKill poison } :=
    fun h => (hc.ext h).plain cur.id cur.sys (.onKill poison) trivial rfl
  have h2 := acct_ite (c := (s.ctx self).restarting.isSome = true)
    (h1.trans0 (.plain (acct_behave self beh _ (.onKill poison) h1.valid (hc' h1) nofun) rfl))
    (h1.trans0 (.plain (acct_execRecover self beh _ (.onKill poison) h1.valid (hc' h1) nofun) rfl))
  exact h2.trans0 (acct_onKilled self beh _ self h2.valid (hc' h2) rfl)

theorem Acct.directive {a s : Sys} {d : Nat → Nat} (h : Acct a s d) (self : Cid) {decision : Nat} {targets allT : List Cid}
    {chain' : List (Cid × List Cid)} {up : Target} (hself : self < a.n) (htg : ∀ t ∈ targets, t < a.n)
    (hall : ∀ t ∈ allT, t < a.n) (hch : chainOK a.n chain') (hup : targetOK a.n up) :
    Acct a (directive s self decision targets allT chain' up) d := by
  have h2 := h.tellAll true self targets .cmdPause htg hself
  refine directive_cases (P := fun y => Acct a y d) s self decision targets allT chain' up (fun m hm => ?_) (fun m hm => ?_) (fun _ => ?_) (fun _ => ?_)
  · rcases hm with ⟨_, rfl⟩ | ⟨_, rfl⟩ <;> exact h2.tellAll true self targets _ htg hself
  · rcases hm with ⟨_, rfl⟩ | ⟨_, rfl⟩ <;>
      exact (h2.tellAll false self targets _ htg hself).tellAll true self allT .cmdResume hall hself
  · exact h2.tellAll true self allT .cmdResume hall hself
  · exact (h2.upd_same self _).tell true self up _ hup hself (chainOK_cons hself (List.forall_mem_nil _) hch)

theorem failedOf_lt {n : Nat} {self : Cid} {chain : List (Cid × List Cid)} (hself : self < n) (hch : chainOK n chain) :
    failedOf self chain < n := by
  cases chain with
  | nil => exact hself
  | cons p rest => exact (hch p (List.mem_cons_self ..)).1

theorem acct_onSuperviseDecide {s : Sys} (self : Cid) (chain : List (Cid × List Cid)) (hv : Valid s) (hself : self < s.n)
    (hch : chainOK s.n chain) : Acct0 s (onSuperviseDecide s self chain) := by
  rw [onSuperviseDecide_eq]
  have htg : ∀ t ∈ targetsOf s self (failedOf self chain), t < s.n := by
    intro t ht
    unfold targetsOf at ht
    split at ht
    · rw [List.mem_singleton.mp ht]; exact failedOf_lt hself hch
    · exact (hv.ctx self).children t ht
  have hch' : chainOK s.n (rechain (targetsOf s self (failedOf self chain)) chain) := by
    cases chain with
    | nil => exact List.forall_mem_nil _
    | cons p rest => exact chainOK_cons (hch p (List.mem_cons_self ..)).1 htg (fun q hq => hch q (List.mem_cons_of_mem _ hq))
  have hall : ∀ t ∈ ((rechain (targetsOf s self (failedOf self chain)) chain).map (·.2)).flatten, t < s.n := by
    intro t ht
    obtain ⟨l, hl, htl⟩ := List.mem_flatten.mp ht
    obtain ⟨p, hp, rfl⟩ := List.mem_map.mp hl
    exact (hch' p hp).2 t htl
  exact ((acct_ite (Acct.refl hv) ((Acct.refl hv).upd_same self _)).say _).directive self hself htg hall hch'
    (upTarget_ok (hv.ctx self))

theorem acct_onSupervise {s : Sys} (self : Cid) (chain : List (Cid × List Cid)) (hv : Valid s) (hself : self < s.n)
    (hch : chainOK s.n chain) : Acct0 s (onSupervise s self chain) :=
  acct_ite (acct_onSuperviseDecide self chain hv hself hch)
    ((Acct.refl hv).tell true self (.own (failedOf self chain)) (.onKill false) (failedOf_lt hself hch) hself)

/-- How many copies of the message it carries `HandleEnvelop` makes of the envelope it is given: an undeliverable one
is re-addressed to the root as a dead-letter notice, unless it is such a notice; a delivered one goes to the behaviour. -/
def handleN (s : Sys) (self : Cid) (e : Env) : Nat :=
  if Undeliverable (s.ctx self) e.sys then
    if isDL e.msg then 0 else 1
  else behN s self ((s.ctx self).behaviors.headD (s.ctx self).script) e.msg

theorem acct_handle {s : Sys} (self : Cid) (e : Env) (hv : Valid s) (hc : CurOK s self e) :
    Acct s (handle s self e) (times e (handleN s self e)) := by
  obtain ⟨id, sys, sender, msg⟩ := e
  unfold handle handleN
  have hx := hv.ctx self
  have h0 := Acct.refl hv
  refine acct_ite2 ?_ ?_
  · -- undeliverable: a notice is dropped, anything else becomes a notice to the root
    cases msg with
    | deadLetter x u d => exact h0.times0 _
    | onKill poison =>
      have h1 := h0.upd_same self (fun x => if x.state = .killing then { x with restarting := none } else x)
        (by intro x; split <;> exact ⟨⟨rfl, rfl, rfl⟩, rfl⟩)
      exact h1.trans0 (acct_deadLetter h1.valid (hc.ext h1).env.ids)
    | _ => exact acct_deadLetter hv hc.env.ids
  · cases msg with
    | onLaunch | event _ _ => exact .plain (acct_execRecover _ _ _ _ hv hc nofun) rfl
    | onKill poison =>
      have h1 := h0.upd_same self (fun x => { x with state := .killing })
      exact acct_ite (acct_doKill _ _ _ _ hv hc) (acct_ite (h1.trans0 (acct_doKill _ _ _ _ h1.valid (hc.ext h1))) (h0.upd_same self _))
    | onKilled w => exact acct_onKilled _ _ _ _ hv hc rfl
    | supervise chain sc => exact acct_onSupervise self _ hv hc.self_lt hc.env.msg
    | cmdPause | cmdResume => exact h0.upd_same self _
    | restart poison =>
      have h1 := h0.upd_same self (fun x => { x with state := .killing, restarting := some poison })
      exact acct_ite (h1.trans0 (acct_doKill _ _ _ _ h1.valid (hc.ext h1))) (h0.upd_same self _)
    | watch =>
      cases sender with
      | none => exact h0
      | some w =>
        exact acct_ite h0 (acct_upd self _ hv hc.self_lt
          { hx with watchers := forall_mem_snoc hx.watchers (hc.env.sender w rfl) } (fun _ => rfl))
    | unwatch =>
      cases sender with
      | none => exact h0
      | some w =>
        exact acct_upd self _ hv hc.self_lt
          { hx with watchers := forall_mem_filter hx.watchers } (fun _ => rfl)
    | user _ | deadLetter _ _ _ => exact acct_execRecover _ _ _ _ hv hc (fun _ => rfl)

/-- One mailbox step: the popped copy leaves, what the handler adds arrives. -/
theorem acct_deliver {s : Sys} {c : Cid} {e : Env} (hv : Valid s) (hnm : nextMail (s.ctx c) = some e) :
    Valid (handle (popMail s c) c e) ∧ s.nextEnv ≤ (handle (popMail s c) c e).nextEnv ∧
    ∀ i, total i (handle (popMail s c) c e) + times e 1 i =
      total i s + freshI s (handle (popMail s c) c e) i + times e (handleN (popMail s c) c e) i := by
  obtain ⟨hv0, hc0⟩ := pop_valid hv hnm
  have ha := acct_handle c e hv0 hc0
  obtain ⟨f, hpop, hmail, _⟩ := pop_spec hnm
  have hx0 : (popMail s c).nextEnv = s.nextEnv := by rw [hpop]; rfl
  refine ⟨ha.valid, hx0 ▸ ha.next_le, fun i => ?_⟩
  have hu := total_upd i s c f ((hv.ctx c).lt_of_mem (nextMail_mem hnm))
  have hcnt : cntC i (s.ctx c) = cntC i (f (s.ctx c)) + times e 1 i := by
    unfold cntC; rw [hmail, List.countP_cons]; rfl
  have hfr : freshI (popMail s c) (handle (popMail s c) c e) i = freshI s (handle (popMail s c) c e) i := by
    unfold freshI; rw [hx0]
  rw [ha.cnt i, hfr, hpop]
  omega

end Vivid.ActorSys
