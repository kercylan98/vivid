import Vivid.Proofs.ActorSysRule

/-! Structural invariant of M10 (`StructInv`: children first, restart flag only while stopping) as a handler invariant.
Property theorems: `Props/M10Global.lean`. -/
namespace Vivid.ActorSys

def life (x : Ctx) : St × Bool × Option Bool × List Cid × Option Cid × Path :=
  (x.state, x.zombie, x.restarting, x.children, x.parent, x.path)

def SameS (s s' : Sys) : Prop := s'.n = s.n ∧ ∀ c, life (s'.ctx c) = life (s.ctx c)

theorem Frame.sameS {s s' : Sys} (h : Frame s s') : SameS s s' :=
  h.agree fun _ _ h => congrArg (fun k : Skel => (k.state, k.zombie, k.restarting, k.children, k.parent, k.path)) h

theorem ss_say {a x : Sys} (e : String) (h : SameS a x) : SameS a (say x e) := Agree.trans h frame_say.sameS

theorem life_zombie {x y : Ctx} (h : life x = life y) : x.zombie = y.zombie := congrArg (·.2.1) h

/-- An actor is marked terminated only once it has no children left, and it stays childless; the restart flag is only set
while the actor is stopping. -/
def StructInv (s : Sys) : Prop :=
  (∀ c, (s.ctx c).state = .killed → (s.ctx c).children = []) ∧
  (∀ c, (s.ctx c).restarting.isSome = true → (s.ctx c).state ≠ .running)

theorem structInv_sameS {s s' : Sys} (h : SameS s s') (hi : StructInv s) : StructInv s' := by
  have hs : ∀ c, (s'.ctx c).state = (s.ctx c).state := fun c => congrArg (·.1) (h.2 c)
  have hc : ∀ c, (s'.ctx c).children = (s.ctx c).children := fun c => congrArg (·.2.2.2.1) (h.2 c)
  have hr : ∀ c, (s'.ctx c).restarting = (s.ctx c).restarting := fun c => congrArg (·.2.2.1) (h.2 c)
  exact ⟨fun c hk => by rw [hc]; exact hi.1 c (hs c ▸ hk), fun c h => by rw [hs]; exact hi.2 c (hr c ▸ h)⟩

theorem structInv_upd {s : Sys} (c : Cid) (f : Ctx → Ctx)
    (hk : (f (s.ctx c)).state = .killed → (f (s.ctx c)).children = [])
    (hr : (f (s.ctx c)).restarting.isSome = true → (f (s.ctx c)).state ≠ .running)
    (hi : StructInv s) : StructInv (upd s c f) := by
  refine ⟨fun d h => ?_, fun d h => ?_⟩ <;> by_cases hd : d = c
  · subst hd; rw [upd_ctx_self] at h ⊢; exact hk h
  · rw [upd_ctx_other hd] at h ⊢; exact hi.1 d h
  · subst hd; rw [upd_ctx_self] at h ⊢; exact hr h
  · rw [upd_ctx_other hd] at h ⊢; exact hi.2 d h

theorem structInv_handlerInv : HandlerInv fun _ => StructInv where
  frame hf := structInv_sameS hf.sameS
  pause hi c b _ := structInv_sameS (agree_upd _ c _) hi
  kids hi c g hg := structInv_upd c _ (fun hk => by rw [hi.1 c hk]; exact hg hk) (hi.2 c) hi
  create {m s} hi nc hrun hre _ _ := by
    refine ⟨fun c h => ?_, fun c h => ?_⟩ <;> by_cases hc : c = s.n
    · rw [hc, create_ctx_new, hrun] at h; cases h
    · rw [create_ctx_old s _ hc] at h ⊢; exact hi.1 c h
    · rw [hc, create_ctx_new, hre] at h; cases h
    · rw [create_ctx_old s _ hc] at h ⊢; exact hi.2 c h
  sub hi c ty _ _ := structInv_sameS agree_of_eq hi
  subsFilter hi p := structInv_sameS agree_of_eq hi
  schedule hi c ref _ _ := structInv_sameS (agree_schedule _ c ref) hi
  cancel hi c ref key _ := structInv_sameS (agree_jobs _ c _ _) hi
  clearJobs hi c := structInv_sameS (agree_clearJobs _ c) hi
  unregister hi p := structInv_sameS agree_of_eq hi
  dying hi c g _ := structInv_upd c _ (fun h => by cases h) (fun _ h => by cases h) hi
  unflag hi c _ := structInv_upd c _ (hi.1 c) (fun h => by cases h) hi
  mark hi c _ hch := structInv_upd c _ (fun _ => hch) (fun _ h => by cases h) hi
  finish hi _ := structInv_sameS (agree_clearJobs _ _) hi
  zombify {s c} hi _ := structInv_upd c _ (hi.1 c) (hi.2 c) hi
  revive hi _ := structInv_upd _ _ (fun h => by cases h) (fun h => by cases h) hi

theorem structInv_init (f : Bool) : StructInv (init f) :=
  ⟨fun c _ => by rcases init_ctx f c with hc | hc <;> rw [hc] <;> rfl,
   fun c h => by rcases init_ctx f c with hc | hc <;> rw [hc] at h <;> cases h⟩

end Vivid.ActorSys
