import Vivid.Model.Gossip

/-! `handleGossip` is a pipeline of three kinds of stage: filters (`dropStale`, `supersede`; `fdTick` is
one too), whose result is a sublist; `refresh` / `touch`, a `map` that keeps `id` and `addr` of every
entry; and the merge (`addMember` / `mergeView`), whose entries come from either argument and whose
identifiers are those of both. -/
namespace Vivid.Gossip

/-- The node index (first component of the identifier) is the node's address. -/
def WF (ms : List Mem) : Prop := ∀ e ∈ ms, e.addr = e.id.1

def touch (ms : List Mem) (sender now : Nat) : List Mem :=
  match byAddrNewest ms sender with
  | some t => refresh ms t.id now
  | none => ms

/-- No second incarnation of anybody is in play. -/
def OnePerAddr (ms : List Mem) : Prop := ∀ a ∈ ms, ∀ b ∈ ms, a.addr = b.addr → a = b

def merged (n : Node) (now s : Nat) (view : List Mem) : List Mem :=
  mergeView (touch n.mem s now) (dropStale { n with mem := touch n.mem s now } now s view)

theorem has_iff {ms : List Mem} {i : Nat × Nat} : has ms i = true ↔ ∃ e ∈ ms, e.id = i := by
  simp only [has, List.any_eq_true, decide_eq_true_eq]

theorem has_eq_false {ms : List Mem} {i : Nat × Nat} : has ms i = false ↔ ∀ e ∈ ms, e.id ≠ i := by
  simp only [has, List.any_eq_false, decide_eq_true_eq]

theorem has_map {g : Mem → Mem} (hg : ∀ x, (g x).id = x.id) (ms : List Mem) (i : Nat × Nat) :
    has (ms.map g) i = has ms i := by
  simp only [has, List.any_map, Function.comp_def, hg]

theorem map_id_map {g : Mem → Mem} (hg : ∀ x, (g x).id = x.id) (ms : List Mem) :
    (ms.map g).map (·.id) = ms.map (·.id) := by
  rw [List.map_map]; exact List.map_congr_left fun x _ => hg x

theorem addMember_cases (ms : List Mem) (m : Mem) :
    has ms m.id = true ∧
        (addMember ms m = ms ∨ addMember ms m = ms.map fun x => if x.id = m.id then m else x) ∨
      has ms m.id = false ∧ addMember ms m = ms ++ [m] := by
  unfold addMember
  cases hf : ms.find? (·.id = m.id) with
  | none => exact Or.inr ⟨List.any_eq_false.2 (List.find?_eq_none.1 hf), rfl⟩
  | some e =>
    have he := List.find?_some hf
    refine Or.inl ⟨has_iff.2 ⟨e, List.mem_of_find?_eq_some hf, of_decide_eq_true he⟩, ?_⟩
    by_cases h : newer m e = true
    · exact Or.inr (if_pos h)
    · exact Or.inl (if_neg h)

theorem replace_id (m x : Mem) : (if x.id = m.id then m else x).id = x.id := by
  split <;> simp [*]

theorem addMember_mem {ms : List Mem} {m e : Mem} (h : e ∈ addMember ms m) : e ∈ ms ∨ e = m := by
  rcases addMember_cases ms m with ⟨_, h' | h'⟩ | ⟨_, h'⟩ <;> rw [h'] at h
  · exact Or.inl h
  · obtain ⟨x, hx, rfl⟩ := List.mem_map.1 h
    split
    · exact Or.inr rfl
    · exact Or.inl hx
  · simpa using h

theorem has_addMember (ms : List Mem) (m : Mem) (i : Nat × Nat) :
    has (addMember ms m) i = (has ms i || decide (m.id = i)) := by
  rcases addMember_cases ms m with ⟨hh, h⟩ | ⟨_, h⟩
  ·
    have : has (addMember ms m) i = has ms i := by
      rcases h with h | h <;> rw [h]
      exact has_map (replace_id m) ms i
    rw [this]
    by_cases hi : m.id = i
    · rw [← hi, hh]; rfl
    · simp [hi]
  · simp [h, has]

theorem mergeView_mem {view ms : List Mem} {e : Mem} (h : e ∈ mergeView ms view) : e ∈ ms ∨ e ∈ view :=
  List.foldlRecOn view addMember (motive := fun b => ∀ e ∈ b, e ∈ ms ∨ e ∈ view) (fun _ => Or.inl)
    (fun _ ih _ hm e he => (addMember_mem he).elim (ih e) fun h => Or.inr (h ▸ hm)) e h

theorem has_mergeView (ms view : List Mem) (i : Nat × Nat) :
    has (mergeView ms view) i = (has ms i || has view i) := by
  induction view generalizing ms with
  | nil => simp [mergeView, has]
  | cons v t ih => exact (ih (addMember ms v)).trans (by rw [has_addMember, Bool.or_assoc]; rfl)

theorem byAddrNewest_spec {ms : List Mem} {a : Nat} {t : Mem} (h : byAddrNewest ms a = some t) :
    t ∈ ms ∧ t.addr = a := by
  suffices t ∈ ms.filter fun m => m.addr = a by simpa using this
  refine List.foldlRecOn (motive := fun acc => ∀ t, acc = some t → t ∈ ms.filter fun m => m.addr = a)
    _ _ (fun _ h => by cases h) (fun acc ih m hm t h => ?_) t h
  cases acc with
  | none => exact Option.some.inj h ▸ hm
  | some x =>
    dsimp only at h
    split at h
    · exact Option.some.inj h ▸ hm
    · exact ih _ h

theorem refresh_mem {ms : List Mem} {id : Nat × Nat} {now : Nat} {e : Mem} (h : e ∈ refresh ms id now) :
    ∃ x ∈ ms, e.id = x.id ∧ e.addr = x.addr ∧
      if x.id = id then e.seen = now ∧ e.st ≠ .suspect else e = x := by
  obtain ⟨x, hx, rfl⟩ := List.mem_map.1 h
  refine ⟨x, hx, ?_⟩
  by_cases hc : x.id = id
  · by_cases hs : x.st = .suspect <;> simp [hc, hs]
  · simp [hc]

theorem has_refresh (ms : List Mem) (id i : Nat × Nat) (now : Nat) : has (refresh ms id now) i = has ms i :=
  has_map (fun x => by rw [apply_ite Mem.id, ite_self]) ms i

theorem touch_mem {ms : List Mem} {s now : Nat} {e : Mem} (hwf : WF ms) (h : e ∈ touch ms s now) :
    e ∈ ms ∨ ∃ e0 ∈ ms, e.id = e0.id ∧ e.addr = e0.addr ∧ e.addr = s := by
  unfold touch at h
  split at h
  · next t hb =>
    obtain ⟨x, hx, h1, h2, h3⟩ := refresh_mem h
    split at h3
    · next hid =>
      have ht := byAddrNewest_spec hb
      exact Or.inr ⟨x, hx, h1, h2, by rw [h2, hwf x hx, hid, ← hwf t ht.1, ht.2]⟩
    · exact Or.inl (h3 ▸ hx)
  · exact Or.inl h

theorem has_touch (ms : List Mem) (s now : Nat) (i : Nat × Nat) : has (touch ms s now) i = has ms i := by
  unfold touch
  split
  · exact has_refresh ..
  · rfl

theorem touch_WF {ms : List Mem} {s now : Nat} (hwf : WF ms) : WF (touch ms s now) := by
  intro e he
  rcases touch_mem hwf he with h | ⟨e0, he0, h1, h2, _⟩
  · exact hwf e h
  · rw [h2, h1]; exact hwf e0 he0

theorem supersede_sub {self : Mem} {ms : List Mem} {e : Mem} (h : e ∈ supersede self ms) : e ∈ ms :=
  (List.mem_filter.1 h).1

theorem supersede_id {self : Mem} {ms : List Mem} (h1 : OnePerAddr ms)
    (hself : ∀ e ∈ ms, e.addr = self.addr → e.id = self.id) : supersede self ms = ms := by
  refine List.filter_eq_self.2 fun m hm => ?_
  split
  · next hc => exact decide_eq_true (hself m hm hc.1)
  · simp only [Bool.not_eq_true', List.any_eq_false, decide_eq_true_eq, not_and]
    intro o ho hoa
    rw [h1 o ho m hm hoa]
    exact Nat.lt_irrefl _

theorem handleGossip_eq (n : Node) (now s : Nat) (view : List Mem) :
    (handleGossip n now s view).mem = touch (supersede n.self (merged n now s view)) s now := by
  rfl

theorem stale_of_le {T now B : Nat} {e : Mem} (h : e.seen ≤ B) (hl : B + T < now) : stale T now e = true :=
  decide_eq_true (Nat.lt_of_le_of_lt (Nat.add_le_add_right h T) hl)

theorem mem_dropStale {n : Node} {now s : Nat} {view : List Mem} {v : Mem} :
    v ∈ dropStale n now s view ↔ v ∈ view ∧
      (v.addr = n.self.addr ∨ v.addr = s ∨ has n.mem v.id = true ∨ stale n.T now v = false) := by
  simp [dropStale, or_assoc]

/-- `touch` keeps identifiers, so `dropStale` asks the node as it was. -/
theorem merged_eq (n : Node) (now s : Nat) (view : List Mem) :
    merged n now s view = mergeView (touch n.mem s now) (dropStale n now s view) := by
  simp only [merged, dropStale, has_touch]

/-- Every entry of the result comes from the node's list or from what `dropStale` lets through of the
view, by way of `touch`. -/
theorem handle_all {Q : Mem → Prop} {n : Node} {now s : Nat} {view : List Mem}
    (hQ : ∀ ms, (∀ e ∈ ms, Q e) → ∀ e ∈ touch ms s now, Q e) (hn : ∀ e ∈ n.mem, Q e)
    (hv : ∀ e ∈ dropStale n now s view, Q e) : ∀ e ∈ (handleGossip n now s view).mem, Q e := by
  rw [handleGossip_eq, merged_eq]
  refine hQ _ fun e he => ?_
  rcases mergeView_mem (supersede_sub he) with h | h
  · exact hQ _ hn e h
  · exact hv e h

theorem handle_clean {n : Node} {now s : Nat} {view : List Mem} (h1 : OnePerAddr (merged n now s view))
    (hself : ∀ e ∈ merged n now s view, e.addr = n.self.addr → e.id = n.self.id) :
    (handleGossip n now s view).mem = touch (merged n now s view) s now := by
  rw [handleGossip_eq, supersede_id h1 hself]

theorem handle_has_of_clean {n : Node} {now s : Nat} {view : List Mem}
    (h1 : OnePerAddr (merged n now s view))
    (hself : ∀ e ∈ merged n now s view, e.addr = n.self.addr → e.id = n.self.id) (i : Nat × Nat) :
    has (handleGossip n now s view).mem i = (has n.mem i || has (dropStale n now s view) i) := by
  rw [handle_clean h1 hself, has_touch, merged_eq, has_mergeView, has_touch]

end Vivid.Gossip
