import Vivid.Model.ClusterView
import Vivid.Proofs.VersionVector

/-! `lookup` / `setM` and the member loop of M8 as the operations of `Proofs/Assoc.lean`: per id the loop keeps the newer
state (`mergeMembers_lookup`). -/
namespace Vivid.View
open Vivid.Assoc

@[simp] theorem lookup_nil (i : String) : lookup [] i = none := rfl

theorem lookup_cons (k : String) (s : NodeState) (t : Members) (i : String) :
    lookup ((k, s) :: t) i = if k = i then some s else lookup t i := rfl

def MWF (m : Members) : Prop := (mkeys m).Nodup

theorem lookup_eq (m : Members) (i : String) : lookup m i = find m i := by
  induction m with
  | nil => rfl
  | cons e t ih => simp only [lookup, find, ih]

theorem setM_eq (m : Members) (k : String) (s : NodeState) : setM m k s = put m k s := by
  induction m with
  | nil => rfl
  | cons e t ih => simp only [setM, put, ih]

theorem mergeMembers_eq (o : Members) : ∀ m ch, (mergeMembers m o ch).1 = mergeWith newer m o := by
  induction o with
  | nil => exact fun _ _ => rfl
  | cons e t ih =>
    intro m ch
    simp only [mergeMembers, mergeWith, lookup_eq, setM_eq]
    cases find m e.1 with
    | none => exact ih _ _
    | some ex => simp only [Option.all_some]; split <;> exact ih _ _

theorem lookup_setM (m : Members) (k : String) (s : NodeState) (i : String) :
    lookup (setM m k s) i = if k = i then some s else lookup m i := by
  rw [lookup_eq, setM_eq, find_put, lookup_eq]

theorem mem_keys_of_lookup (m : Members) (i : String) (s : NodeState) (h : lookup m i = some s) : i ∈ mkeys m :=
  Classical.byContradiction fun hn => by
    rw [lookup_eq, find_eq_none hn] at h; cases h

theorem mergeMembers_lookup (o : Members) (ho : MWF o) (m : Members) (ch : Bool) (i : String) :
    lookup (mergeMembers m o ch).1 i = pick newer (lookup m i) (lookup o i) := by
  rw [lookup_eq, mergeMembers_eq, find_mergeWith newer ho, lookup_eq, lookup_eq]

theorem mergeMembers_mwf {o m : Members} {ch : Bool} (h : MWF m) : MWF (mergeMembers m o ch).1 :=
  mergeMembers_eq o m ch ▸ nodup_mergeWith newer o m h

theorem mergeMembers_unchanged (o : Members) : ∀ (m : Members) (ch : Bool),
    (mergeMembers m o ch).2 = false → ch = false ∧ (mergeMembers m o ch).1 = m := by
  induction o with
  | nil => exact fun _ _ h => ⟨h, rfl⟩
  | cons e t ih =>
    intro m ch
    obtain ⟨i, os⟩ := e
    rw [mergeMembers]
    -- an adopted entry sets the flag, and the rest of the loop never clears it: `(ih _ true h).1 : true = false`
    cases lookup m i with
    | none => exact fun h => nomatch (ih _ _ h).1
    | some ex =>
      dsimp only; split
      · exact fun h => nomatch (ih _ _ h).1
      · exact ih m ch

end Vivid.View
