import Vivid.Model.Mailbox

/-! Every count the invariant `Inv` of the mailbox transition system speaks of is a weighted sum
`wsum w c allPcs` of the counter vector, or a single entry `c p`.  A label moves one thread, so it
changes a weighted sum by the difference of two weights (`wsum_mv`) and an entry at a third program
point not at all. -/
namespace Vivid.Mailbox

def allPcs : List Pc := [.eU0, .eU1, .eS0, .eS1, .eC, .eGo, .pz0, .r0, .r1, .rGo, .cStart, .cDecS, .cHndS, .cLoadP, .cPopU, .cDecU, .cHndU, .cStore, .cLoadN, .cLoadSyT, .cLoadSyF, .cLoadPz, .cReCas, .H, .hU1, .hS1, .hC, .hSpawn, .hR1, .hRSpawn]

theorem count_allPcs (p : Pc) : allPcs.count p = 1 := by cases p <;> decide +kernel

theorem forall_allPcs {P : Pc → Prop} (h : ∀ p ∈ allPcs, P p) (p : Pc) : P p :=
  h p (List.count_pos_iff.1 (by rw [count_allPcs]; exact Nat.one_pos))

/-- Keeps big sums as a single atom for `omega`. -/
def wsum (w : Pc → Nat) (c : Pc → Nat) : List Pc → Nat
  | [] => 0
  | q :: t => w q * c q + wsum w c t

theorem wsum_inc_list (w c p) (l : List Pc) : wsum w (inc c p) l = wsum w c l + w p * l.count p := by
  induction l with
  | nil => rfl
  | cons q t ih =>
    rw [wsum, wsum, ih, List.count_cons, inc]
    by_cases hq : q = p
    · subst hq; rw [if_pos rfl, beq_self_eq_true, if_pos rfl, Nat.mul_add, Nat.mul_add]; omega
    · rw [if_neg hq, if_neg (by simpa using hq), Nat.add_zero]; omega

theorem le_wsum_list (w c p) (l : List Pc) : w p * c p * l.count p ≤ wsum w c l := by
  induction l with
  | nil => simp [wsum]
  | cons q t ih =>
    rw [wsum, List.count_cons]
    by_cases hq : q = p
    · subst hq; rw [beq_self_eq_true, if_pos rfl, Nat.mul_add, Nat.mul_one]; omega
    · rw [if_neg (by simpa using hq), Nat.add_zero]; omega

theorem inc_dec {c : Pc → Nat} {p : Pc} (h : 0 < c p) : inc (dec c p) p = c := by
  funext q; unfold inc dec; split
  · next e => subst e; omega
  · rfl

theorem wsum_inc (w c p) : wsum w (inc c p) allPcs = wsum w c allPcs + w p := by
  rw [wsum_inc_list, count_allPcs, Nat.mul_one]

theorem wsum_dec (w c p) (h : 0 < c p) : wsum w (dec c p) allPcs + w p = wsum w c allPcs := by
  rw [← wsum_inc, inc_dec h]

theorem wsum_mv (w c p q) (h : 0 < c p) : wsum w (mv c p q) allPcs + w p = wsum w c allPcs + w q := by
  rw [mv, wsum_inc, ← wsum_dec w c p h]; omega

theorem le_wsum (w c p) : w p * c p ≤ wsum w c allPcs := by
  have := le_wsum_list w c p allPcs; rwa [count_allPcs, Nat.mul_one] at this

section
variable {w c : Pc → Nat} {p q : Pc} {t : Nat}

theorem wsum_inc_eq (ht : wsum w c allPcs = t) (hw : w p = 0) : wsum w (inc c p) allPcs = t := by
  have := wsum_inc w c p; omega
theorem wsum_dec_eq (ht : wsum w c allPcs = t) (h : 0 < c p) (hw : w p = 0) : wsum w (dec c p) allPcs = t := by
  have := wsum_dec w c p h; omega
theorem wsum_mv_eq (ht : wsum w c allPcs = t) (h : 0 < c p) (hw : w p = w q) : wsum w (mv c p q) allPcs = t := by
  have := wsum_mv w c p q h; omega
theorem wsum_dec_lt (h : 0 < c p) (hw : 0 < w p) : wsum w (dec c p) allPcs < wsum w c allPcs := by
  have := wsum_dec w c p h; omega
theorem wsum_mv_lt (h : 0 < c p) (hw : w q < w p) : wsum w (mv c p q) allPcs < wsum w c allPcs := by
  have := wsum_mv w c p q h; omega
theorem wsum_eq_zero (h : wsum w c allPcs = 0) (hw : 0 < w p) : c p = 0 := by
  have := le_wsum w c p; rw [h] at this
  exact (Nat.mul_eq_zero.mp (Nat.le_zero.mp this)).resolve_left (Nat.ne_of_gt hw)

end

/-- 1 on the program points that hold the processing token. -/
def wH : Pc → Nat
  | .eGo => 1
  | .rGo => 1
  | .hSpawn => 1
  | .hRSpawn => 1
  | .cStart => 1
  | .cDecS => 1
  | .cHndS => 1
  | .cLoadP => 1
  | .cPopU => 1
  | .cDecU => 1
  | .cHndU => 1
  | .cStore => 1
  | .H => 1
  | .hU1 => 1
  | .hS1 => 1
  | .hC => 1
  | .hR1 => 1
  | _ => 0

def hsum (c : Pc → Nat) : Nat := wsum wH c allPcs

theorem holders_eq (s : St) : holders s = hsum s.c := by
  simp only [holders, hsum, wsum, allPcs, wH, Nat.zero_mul]
  simp +arith only

theorem hsum_mv (c p q) (h : 0 < c p) : hsum (mv c p q) + wH p = hsum c + wH q := wsum_mv wH c p q h

structure Inv (s : St) : Prop where
  token : hsum s.c = if s.proc then 1 else 0
  -- the counters lag the queues by the threads between a push and its increment, a pop and its decrement
  cntU : s.num = (s.uq : Int) + s.c .cDecU - s.c .eU1 - s.c .hU1
  cntS : s.sys = (s.sq : Int) + s.c .cDecS - s.c .eS1 - s.c .hS1
  consU : s.accU = s.hndU + s.uq + s.c .cDecU + s.c .cHndU
  consS : s.accS = s.hndS + s.sq + s.c .cDecS + s.c .cHndS
  -- a handler's own CAS on `status` never wins (it holds the token itself)
  nest : s.c .hSpawn = 0 ∧ s.c .hRSpawn = 0
  /- No lost wake-up.  While nobody holds the token, a non-empty queue (that may be processed) has a witness: a thread
  that will CAS `status` whatever it sees (first disjunct), or a processing goroutine in the loads of its re-arm decision
  while the counter it is about to read is positive (second disjunct). -/
  armedS : s.proc = false → 0 < s.sq →
    (0 < s.c .eS1 + s.c .eC + s.c .r1 + s.c .cReCas ∨
      (0 < s.sys ∧ 0 < s.c .cLoadN + s.c .cLoadSyT + s.c .cLoadSyF))
  armedU : s.proc = false → 0 < s.uq → s.paused = false →
    (0 < s.c .eU1 + s.c .eC + s.c .r1 + s.c .cReCas + s.c .cLoadSyT + s.c .cLoadPz ∨
      (0 < s.num ∧ 0 < s.c .cLoadN))

theorem inv_init : Inv init := by
  constructor <;> simp [init, hsum, wsum, allPcs]

theorem busy {c : Pc → Nat} {b : Bool} {p : Pc} (ht : hsum c = if b then 1 else 0) (hp : 0 < c p)
    (hw : wH p = 1) : b = true := by
  cases b
  · have := wsum_eq_zero ht (p := p) (by omega); omega
  · rfl

theorem not_both {b : Bool} {P : Prop} (ht : b = true) (hf : b = false) : P :=
  absurd (hf.symm.trans ht) Bool.false_ne_true

theorem token_win {c p q} {b : Bool} (ht : hsum c = if b then 1 else 0) (hb : b = false) (h : 0 < c p)
    (hp : wH p = 0) (hq : wH q = 1) : hsum (mv c p q) = 1 := by
  subst hb; have := hsum_mv c p q h; simp only [Bool.false_eq_true, ↓reduceIte] at ht; omega

theorem token_release {c p q} {b : Bool} (ht : hsum c = if b then 1 else 0) (h : 0 < c p)
    (hp : wH p = 1) (hq : wH q = 0) : hsum (mv c p q) = 0 := by
  have := hsum_mv c p q h; split at ht <;> omega

theorem fire_some {g : Prop} [Decidable g] {x y : St} (h : (if g then some x else none) = some y) :
    g ∧ x = y :=
  (Option.ite_none_right_eq_some.1 h).imp_right Option.some.inj

/-- The counter updates at the named program points, then linear arithmetic. -/
macro "count_arith" : tactic => `(tactic| (simp only [mv, inc, dec, reduceCtorEq, ↓reduceIte]; omega))

/- One label moves one thread from `a` to `b` and changes a few fields.  A clause of `Inv` that
mentions neither `a`, `b` nor a changed field is the old clause: `mv s.c a b p` reduces to `s.c p`
by evaluation of the `if`s, so the old proof is accepted as it is.  `token` follows from the two
weights.  The `armed` clauses are void while `proc` is set, which is the case after every step
of a token holder and after every CAS on `status`. -/
theorem inv_step (fixed : Bool) (l : Label) (s s' : St) (h : Inv s) (hf : fire fixed l s = some s') : Inv s' := by
  -- `hg : 0 < s.c a` for the program point `a` the thread leaves, `hg'` the label's second guard
  cases l <;> first | obtain ⟨⟨hg, hg'⟩, rfl⟩ := fire_some hf | obtain ⟨hg, rfl⟩ := fire_some hf | cases hf
  case newEnqU | newEnqS | newPause | newResume =>
    exact { h with token := wsum_inc_eq h.token rfl }
  case uPush =>
    exact { h with
      token := wsum_mv_eq h.token hg rfl
      cntU := by have := h.cntU; count_arith
      consU := by have := h.consU; count_arith
      armedU := fun _ _ _ => .inl (by count_arith) }
  case uInc =>
    exact { h with
      token := wsum_mv_eq h.token hg rfl
      cntU := by have := h.cntU; count_arith
      armedS := fun _ _ => .inl (by count_arith)
      armedU := fun _ _ _ => .inl (by count_arith) }
  case sPush =>
    exact { h with
      token := wsum_mv_eq h.token hg rfl
      cntS := by have := h.cntS; count_arith
      consS := by have := h.consS; count_arith
      armedS := fun _ _ => .inl (by count_arith) }
  case sInc =>
    exact { h with
      token := wsum_mv_eq h.token hg rfl
      cntS := by have := h.cntS; count_arith
      armedS := fun _ _ => .inl (by count_arith)
      armedU := fun _ _ _ => .inl (by count_arith) }
  case pCasWin | rCasSWin | reWin =>
    exact { h with token := token_win h.token hg' hg rfl rfl, armedS := nofun, armedU := nofun }
  case pCasLose | rCasSLose | reLose =>
    exact { h with token := wsum_dec_eq h.token hg rfl, armedS := not_both hg', armedU := not_both hg' }
  case pause =>
    exact { h with token := wsum_dec_eq h.token hg rfl, armedU := nofun }
  case rCasPLose =>
    exact { h with token := wsum_dec_eq h.token hg rfl }
  -- the thread arrives at `r1` or `cReCas`: it is the witness of both `armed` clauses
  case rCasPWin | loadSyTPos | loadSyFPos | loadPzRun =>
    exact { h with
      token := wsum_mv_eq h.token hg rfl
      armedS := fun _ _ => .inl (by count_arith)
      armedU := fun _ _ _ => .inl (by count_arith) }
  case loadNPos =>
    exact { h with
      token := wsum_mv_eq h.token hg rfl
      armedS := fun hp hq => by have := h.armedS hp hq; count_arith
      armedU := fun _ _ _ => .inl (by count_arith) }
  -- a thread that saw a counter `≤ 0` was not the witness: `hg'` refutes the second disjunct
  case loadNNon =>
    exact { h with
      token := wsum_mv_eq h.token hg rfl
      armedS := fun hp hq => by have := h.armedS hp hq; count_arith
      armedU := fun hp hq hz => by have := h.armedU hp hq hz; count_arith }
  case loadSyTNon =>
    cases fixed
    · exact { h with
        token := wsum_mv_eq h.token hg rfl
        armedS := fun _ _ => .inl (by count_arith)
        armedU := fun _ _ _ => .inl (by count_arith) }
    · exact { h with
        token := wsum_mv_eq h.token hg rfl
        armedS := fun hp hq => by have := h.armedS hp hq; count_arith
        armedU := fun _ _ _ => .inl (by count_arith) }
  case loadSyFNon =>
    exact { h with
      token := wsum_dec_eq h.token hg rfl
      armedS := fun hp hq => by have := h.armedS hp hq; count_arith }
  case loadPzPaused =>
    exact { h with token := wsum_dec_eq h.token hg rfl, armedU := fun _ _ => not_both hg' }
  /- `store` gives the token back.  Its thread was the only holder, so no handler is between a nested push
  and its increment: a counter falls short of its queue by the external enqueuers only, and the thread, now at
  `cLoadN`, will see it.  The two facts and the clauses' own premises speak of the new state, so here the
  counter updates are evaluated in the hypotheses as well. -/
  case store =>
    have ht : hsum (mv s.c .cStore .cLoadN) = 0 := token_release h.token hg rfl rfl
    have hS1 := wsum_eq_zero ht (p := .hS1) Nat.one_pos
    have hU1 := wsum_eq_zero ht (p := .hU1) Nat.one_pos
    exact { h with
      token := ht
      armedS := fun _ _ => by have := h.cntS; simp only [mv, inc, dec, reduceCtorEq, ↓reduceIte] at *; omega
      armedU := fun _ _ _ => by have := h.cntU; simp only [mv, inc, dec, reduceCtorEq, ↓reduceIte] at *; omega }
  case hRCasPLose =>
    exact h
  case hCasWin | hRCasSWin =>
    exact not_both (busy h.token hg rfl) hg'
  case hSpawnGo =>
    exact absurd hg (by rw [h.nest.1]; exact Nat.lt_irrefl 0)
  case hRSpawnGo =>
    exact absurd hg (by rw [h.nest.2]; exact Nat.lt_irrefl 0)
  all_goals have hb := busy h.token hg rfl
  case hPause =>
    exact { h with armedS := not_both hb, armedU := not_both hb }
  case pGo | rGo | hEnd | popSNone | loadPPaused | loadPRun | popUNone | hCasLose | hRCasSLose | hRCasPWin =>
    exact { h with token := wsum_mv_eq h.token hg rfl, armedS := not_both hb, armedU := not_both hb }
  case popSSome | decS | hSPush =>
    exact { h with
      token := wsum_mv_eq h.token hg rfl
      cntS := by have := h.cntS; count_arith
      consS := by have := h.consS; count_arith
      armedS := not_both hb, armedU := not_both hb }
  case hndS =>
    exact { h with
      token := wsum_mv_eq h.token hg rfl
      consS := by have := h.consS; count_arith
      armedS := not_both hb, armedU := not_both hb }
  case hSInc =>
    exact { h with
      token := wsum_mv_eq h.token hg rfl
      cntS := by have := h.cntS; count_arith
      armedS := not_both hb, armedU := not_both hb }
  case popUSome | decU | hUPush =>
    exact { h with
      token := wsum_mv_eq h.token hg rfl
      cntU := by have := h.cntU; count_arith
      consU := by have := h.consU; count_arith
      armedS := not_both hb, armedU := not_both hb }
  case hndU =>
    exact { h with
      token := wsum_mv_eq h.token hg rfl
      consU := by have := h.consU; count_arith
      armedS := not_both hb, armedU := not_both hb }
  case hUInc =>
    exact { h with
      token := wsum_mv_eq h.token hg rfl
      cntU := by have := h.cntU; count_arith
      armedS := not_both hb, armedU := not_both hb }

theorem inv_reach (fixed : Bool) (s : St) (h : Reach fixed s) : Inv s := by
  induction h with
  | init => exact inv_init
  | step l _ hf ih => exact inv_step fixed l _ _ ih hf

end Vivid.Mailbox
