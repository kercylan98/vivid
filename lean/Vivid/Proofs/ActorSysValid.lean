import Vivid.Proofs.ActorSys

/-! Well-formedness of M10 (`Valid`: every context id stored anywhere names an existing context,
contexts that do not exist yet hold no mail, dead-letter envelopes only ever sit in the root's
mailbox, every user-message id in the system is below `nextEnv`) and what the elementary state
changes (one context updated, a table replaced, the id counter advanced, a context created, the
mailbox popped) do to it.  The handlers are walked in `Proofs/ActorSysCount.lean`; property theorems
in `Props/C03Global.lean`. -/
namespace Vivid.ActorSys

theorem forall_mem_filter {α} {p : α → Prop} {l : List α} {q : α → Bool} (hl : ∀ x ∈ l, p x) : ∀ x ∈ l.filter q, p x :=
  fun x hx => hl x (List.mem_filter.mp hx).1

def mail (x : Ctx) : List Env := x.sysQ ++ x.userQ ++ x.stash

def isDL : Msg → Bool
  | .deadLetter _ _ _ => true
  | _ => false

/-- Envelope `e` carries user message `i`: it is that message, or the dead-letter notice for it. -/
def carries (i : Nat) (e : Env) : Bool :=
  match e.msg with
  | .user _ => e.id == i
  | .deadLetter x u _ => u && x == i
  | _ => false

/-- User message `i` is held somewhere: in some mailbox or stash, or on the published list. -/
def Held (i : Nat) (s : Sys) : Prop :=
  (∃ c e, e ∈ mail (s.ctx c) ∧ carries i e = true) ∨ i ∈ s.deadLetters

def chainOK (n : Nat) (ch : List (Cid × List Cid)) : Prop := ∀ p ∈ ch, p.1 < n ∧ ∀ t ∈ p.2, t < n

def msgOK (n : Nat) : Msg → Prop
  | .supervise ch _ => chainOK n ch
  | _ => True

structure EnvOK (n nx : Nat) (c : Cid) (e : Env) : Prop where
  sender : ∀ d, e.sender = some d → d < n
  msg : msgOK n e.msg
  nodl : c ≠ 0 → isDL e.msg = false
  ids : ∀ i, carries i e = true → i < nx

structure CtxOK (n nx : Nat) (c : Cid) (x : Ctx) : Prop where
  parent : ∀ p, x.parent = some p → p < n
  children : ∀ k ∈ x.children, k < n
  watchers : ∀ w ∈ x.watchers, w < n
  envs : ∀ e ∈ mail x, EnvOK n nx c e
  blank : n ≤ c → mail x = []

structure Valid (s : Sys) : Prop where
  pos : 0 < s.n
  ctx : ∀ c, CtxOK s.n s.nextEnv c (s.ctx c)
  reg : ∀ e ∈ s.registry, e.2 < s.n
  refs : ∀ e ∈ s.refs, ∀ c, e.2.2 = some c → c < s.n
  subs : ∀ e ∈ s.subs, e.2.2 < s.n
  dls : ∀ i ∈ s.deadLetters, i < s.nextEnv

def targetOK (n : Nat) : Target → Prop
  | .own c => c < n
  | _ => True

theorem carries_user (i : Nat) (e : Env) (k : Nat) (hm : e.msg = .user k) : carries i e = (e.id == i) := by
  simp [carries, hm]

/-- Neither a user message nor a dead-letter notice: such an envelope carries no id. -/
def plain : Msg → Bool
  | .user _ => false
  | .deadLetter _ _ _ => false
  | _ => true

theorem carries_plain {e : Env} (h : plain e.msg = true) (i : Nat) : carries i e = false := by
  unfold carries
  cases hm : e.msg with
  | user _ | deadLetter _ _ _ => rw [hm] at h; cases h
  | _ => rfl

theorem isDL_plain {m : Msg} (h : plain m = true) : isDL m = false := by
  cases m with
  | deadLetter _ _ _ => cases h
  | _ => rfl

theorem carries_dlEnv (i : Nat) (e : Env) : carries i (dlEnv e) = carries i e := by
  unfold carries dlEnv
  cases hm : e.msg <;> simp

theorem carries_tellEnv (s : Sys) (sys : Bool) (sender : Option Cid) {m : Msg} (hdl : isDL m = false) (i : Nat) :
    carries i (tellEnv s sys sender m) = true ↔ s.nextEnv ≤ i ∧ i < tellNext s m := by
  cases m with
  | user k => simp only [carries, tellEnv, tellNext, beq_iff_eq]; omega
  | deadLetter x u d => cases hdl
  | _ => exact ⟨nofun, fun h => absurd h.2 (Nat.not_lt.mpr h.1)⟩

theorem chainOK_mono {n n' : Nat} {ch : List (Cid × List Cid)} (h : chainOK n ch) (hn : n ≤ n') : chainOK n' ch :=
  fun p hp => ⟨Nat.lt_of_lt_of_le (h p hp).1 hn, fun t ht => Nat.lt_of_lt_of_le ((h p hp).2 t ht) hn⟩

theorem msgOK_mono {n n' : Nat} {m : Msg} (h : msgOK n m) (hn : n ≤ n') : msgOK n' m := by
  cases m with
  | supervise _ _ => exact chainOK_mono h hn
  | _ => trivial

theorem targetOK_mono {n n' : Nat} {t : Target} (h : targetOK n t) (hn : n ≤ n') : targetOK n' t := by
  cases t with
  | own _ => exact Nat.lt_of_lt_of_le h hn
  | _ => trivial

theorem EnvOK.mono {n nx n' nx' : Nat} {c : Cid} {e : Env} (h : EnvOK n nx c e) (hn : n ≤ n') (hx : nx ≤ nx') :
    EnvOK n' nx' c e :=
  ⟨fun d hd => Nat.lt_of_lt_of_le (h.sender d hd) hn, msgOK_mono h.msg hn, h.nodl,
   fun i hi => Nat.lt_of_lt_of_le (h.ids i hi) hx⟩

theorem CtxOK.mono {n nx n' nx' : Nat} {c : Cid} {x : Ctx} (h : CtxOK n nx c x) (hn : n ≤ n') (hx : nx ≤ nx') :
    CtxOK n' nx' c x :=
  ⟨fun p hp => Nat.lt_of_lt_of_le (h.parent p hp) hn, fun k hk => Nat.lt_of_lt_of_le (h.children k hk) hn,
   fun w hw => Nat.lt_of_lt_of_le (h.watchers w hw) hn, fun e he => (h.envs e he).mono hn hx,
   fun hc => h.blank (Nat.le_trans hn hc)⟩

theorem CtxOK.lt_of_mem {n nx : Nat} {c : Cid} {x : Ctx} {e : Env} (h : CtxOK n nx c x) (he : e ∈ mail x) : c < n :=
  Nat.lt_of_not_le fun hle => by rw [h.blank hle] at he; cases he

/-- `y` holds the references of `x`: the fields `CtxOK` looks at, the mail apart. -/
def sameRefs (y x : Ctx) : Prop := y.parent = x.parent ∧ y.children = x.children ∧ y.watchers = x.watchers

theorem CtxOK.sub {n nx : Nat} {c : Cid} {x y : Ctx} (hx : CtxOK n nx c x) (hc : c < n) (hr : sameRefs y x)
    (hm : ∀ e ∈ mail y, e ∈ mail x ∨ EnvOK n nx c e) : CtxOK n nx c y :=
  ⟨by rw [hr.1]; exact hx.parent, by rw [hr.2.1]; exact hx.children, by rw [hr.2.2]; exact hx.watchers,
   fun e he => (hm e he).elim (hx.envs e) id, fun h => absurd hc (Nat.not_lt.mpr h)⟩

theorem CtxOK.same {n nx : Nat} {c : Cid} {x y : Ctx} (hx : CtxOK n nx c x) (hr : sameRefs y x) (hm : mail y = mail x) :
    CtxOK n nx c y :=
  ⟨by rw [hr.1]; exact hx.parent, by rw [hr.2.1]; exact hx.children, by rw [hr.2.2]; exact hx.watchers,
   by rw [hm]; exact hx.envs, by rw [hm]; exact hx.blank⟩

theorem ctxOK_empty {n nx : Nat} {c : Cid} {x : Ctx} (hk : x.children = []) (hw : x.watchers = []) (hm : mail x = [])
    (hp : ∀ p, x.parent = some p → p < n) : CtxOK n nx c x :=
  ⟨hp, by rw [hk]; exact List.forall_mem_nil _, by rw [hw]; exact List.forall_mem_nil _,
   by rw [hm]; exact List.forall_mem_nil _, fun _ => hm⟩

theorem valid_upd {s : Sys} (c : Cid) (f : Ctx → Ctx) (hv : Valid s) (hf : CtxOK s.n s.nextEnv c (f (s.ctx c))) :
    Valid (upd s c f) := by
  refine ⟨hv.pos, fun d => ?_, hv.reg, hv.refs, hv.subs, hv.dls⟩
  by_cases h : d = c
  · subst h; rw [upd_ctx_self]; exact hf
  · rw [upd_ctx_other h]; exact hv.ctx d

theorem push_fix (e : Env) (x : Ctx) : sameRefs (push e x) x := by
  unfold push; split <;> exact ⟨rfl, rfl, rfl⟩

theorem mail_push (e : Env) (x : Ctx) : (mail (push e x)).Perm (e :: mail x) := by
  unfold push mail
  split
  · exact ((List.perm_append_singleton e x.sysQ).append_right x.userQ).append_right x.stash
  · exact (((List.perm_append_singleton e x.userQ).append_left x.sysQ).trans List.perm_middle).append_right x.stash

theorem valid_next {s : Sys} {nx : Nat} (hv : Valid s) (hnx : s.nextEnv ≤ nx) : Valid { s with nextEnv := nx } :=
  ⟨hv.pos, fun c => (hv.ctx c).mono (Nat.le_refl _) hnx, hv.reg, hv.refs, hv.subs,
   fun i hi => Nat.lt_of_lt_of_le (hv.dls i hi) hnx⟩

/-- What a handler knows about itself and the envelope it is processing. -/
structure CurOK (s : Sys) (me : Cid) (cur : Env) : Prop where
  self_lt : me < s.n
  env : EnvOK s.n s.nextEnv me cur

/-- The current envelope re-labelled with a message that carries no id (`{ cur with msg := m }`, a synthetic envelope). -/
theorem CurOK.plain {s : Sys} {self : Cid} {cur : Env} (hc : CurOK s self cur) (id : Nat) (sys : Bool) (m : Msg)
    (hm : msgOK s.n m) (hp : plain m = true) : CurOK s self { id := id, sys := sys, sender := cur.sender, msg := m } :=
  ⟨hc.self_lt, hc.env.sender, hm, fun _ => isDL_plain hp, fun i hi => by rw [carries_plain hp] at hi; cases hi⟩

theorem upTarget_ok {n nx : Nat} {c : Cid} {x : Ctx} (hx : CtxOK n nx c x) : targetOK n (upTarget x) := by
  unfold upTarget
  split
  · rename_i p hp; exact hx.parent p hp
  · trivial

theorem targetOK_ite {n : Nat} {c : Prop} [Decidable c] {a b : Target} (ha : targetOK n a) (hb : targetOK n b) :
    targetOK n (if c then a else b) := by split <;> assumption

theorem evalTarget_ok {s : Sys} (self : Cid) (cur : Env) (spec : String) (hv : Valid s) (hc : CurOK s self cur) :
    targetOK s.n (evalTarget s self cur spec) := by
  unfold evalTarget
  -- the chain of `if`s is taken apart by a lemma: `split` on the whole term simplifies it again in every branch
  refine targetOK_ite hc.self_lt (targetOK_ite (upTarget_ok (hv.ctx self)) (targetOK_ite ?_ (targetOK_ite ?_
    (targetOK_ite trivial (targetOK_ite ?_ trivial)))))
  · split
    · rename_i c hcs; exact hc.env.sender c hcs
    · trivial
  · dsimp only
    split
    · rename_i c hf; exact (hv.ctx self).children c (List.mem_of_find?_eq_some hf)
    · trivial
  · split <;> trivial

theorem mem_esTargets {subs : Subs} {ty : Nat} {t : Cid} (h : t ∈ esTargets subs ty) : ∃ e ∈ subs, e.2.2 = t := by
  unfold esTargets at h
  obtain ⟨e, he, rfl⟩ := List.mem_map.mp h
  exact ⟨e, (List.mem_filter.mp he).1, rfl⟩

theorem pop_spec {s : Sys} {c : Cid} {e : Env} (h : nextMail (s.ctx c) = some e) :
    ∃ f : Ctx → Ctx, popMail s c = upd s c f ∧ mail (s.ctx c) = e :: mail (f (s.ctx c)) ∧ sameRefs (f (s.ctx c)) (s.ctx c) ∧
      (f (s.ctx c)).state = (s.ctx c).state ∧ (f (s.ctx c)).zombie = (s.ctx c).zombie := by
  unfold nextMail at h
  unfold popMail
  split at h
  · rename_i e0 rest hq
    cases h
    exact ⟨fun y => { y with sysQ := rest }, rfl, by simp only [mail, hq, List.cons_append], ⟨rfl, rfl, rfl⟩, rfl, rfl⟩
  · rename_i hq
    split at h
    · cases h
    · cases hu : (s.ctx c).userQ with
      | nil => rw [hu] at h; cases h
      | cons a rest =>
        rw [hu] at h; cases h
        exact ⟨fun y => { y with userQ := rest }, rfl, by simp only [mail, hq, hu, List.nil_append, List.cons_append],
          ⟨rfl, rfl, rfl⟩, rfl, rfl⟩

theorem nextMail_mem {s : Sys} {c : Cid} {e : Env} (h : nextMail (s.ctx c) = some e) : e ∈ mail (s.ctx c) := by
  obtain ⟨_, _, hm, _⟩ := pop_spec h
  rw [hm]; exact List.mem_cons_self ..

theorem pop_valid {s : Sys} {c : Cid} {e : Env} (hv : Valid s) (h : nextMail (s.ctx c) = some e) :
    Valid (popMail s c) ∧ CurOK (popMail s c) c e := by
  have hx := hv.ctx c
  have hmem := nextMail_mem h
  have hcn := hx.lt_of_mem hmem
  obtain ⟨f, hpop, hmail, hr, _⟩ := pop_spec h
  rw [hpop]
  exact ⟨valid_upd c f hv (hx.sub hcn hr (fun e' he' => Or.inl (by rw [hmail]; exact List.mem_cons_of_mem _ he'))),
    hcn, hx.envs e hmem⟩

theorem valid_init (f : Bool) : Valid (init f) := by
  refine ⟨Nat.one_pos, fun c => ?_, List.forall_mem_nil _, List.forall_mem_nil _, List.forall_mem_nil _,
    List.forall_mem_nil _⟩
  show CtxOK 1 1 c (if c = 0 then rootCtx else blankCtx)
  split <;> exact ctxOK_empty rfl rfl rfl nofun

end Vivid.ActorSys
