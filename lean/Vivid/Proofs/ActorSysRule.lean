import Vivid.Proofs.ActorSysFrame

/-! A proof rule for the handlers of M10.

`HandlerInv I` lists what an invariant has to survive besides frame steps: the state changes a handler can make to the
lifecycle skeleton and the tables, each with the facts the control flow guarantees where it is made.  The skeleton of
`handle` (runActions, actorOf, behave, execRecover, cleanup, handleRestart, onKilled, doKill, onSupervise, deliver, applyOp)
is walked here for all of them; `HandlerInv.run` gives `I none` in every reachable state.  (The accounting relation `Acct` of
`Proofs/ActorSysCount.lean` needs the envelopes themselves, not only what a step leaves alone, and walks it once more.) -/
namespace Vivid.ActorSys

/-- The actor `c`, whose context record is `x`, may still act on the tables: it is not terminated, or is a zombie, or is
the actor `m` that is inside its own termination. -/
def Awake (m : Option Cid) (c : Cid) (x : Ctx) : Prop := m = some c ∨ x.state ≠ .killed ∨ x.zombie = true

theorem awake_of_state {m : Option Cid} {c : Cid} {x : Ctx} (h : x.state ≠ .killed) : Awake m c x := .inr (.inl h)

theorem Awake.zombie_of_killed {c : Cid} {x : Ctx} (h : Awake none c x) (hk : x.state = .killed) : x.zombie = true :=
  h.elim (fun h => nomatch h) fun h => h.elim (absurd hk) id

theorem Awake.of_none {m : Option Cid} {c : Cid} {x : Ctx} (h : Awake none c x) : Awake m c x :=
  h.elim (fun h => nomatch h) .inr

theorem Awake.drop {c d : Cid} {x : Ctx} (h : Awake (some c) d x) (hd : d ≠ c) : Awake none d x :=
  h.elim (fun h => absurd (Option.some.inj h).symm hd) .inr

/-- `I none` is the invariant; `I (some c)` is what holds while `c` is inside its own termination: marked terminated,
its `OnKilled(self)` behaviour running, not yet cleaned up or restarted.  Besides frame steps these are all the state
changes a handler makes, each with as much of what the control flow guarantees there as the five instances need.
`kids`, `create`, `subsFilter` and `unregister` could say more (which child comes or goes; the children, parent and path of the
new context, that it is no zombie and not paused; that the path is that of an actor which is terminated or a zombie): an
invariant of the kind "every child listed exists" or "whoever is alive is still listed" would need that. -/
structure HandlerInv (I : Option Cid → Sys → Prop) : Prop where
  frame : ∀ {m s s'}, Frame s s' → I m s → I m s'
  pause : ∀ {m s}, I m s → ∀ (c : Cid) (b : Bool), Awake m c (s.ctx c) → I m (upd s c fun x => { x with paused := b })
  /-- `ActorOf` adds a child to a parent that is not terminated; a death notice removes one.  So `g` is arbitrary
  unless `c` is terminated, and then it keeps "no children". -/
  kids : ∀ {m s}, I m s → ∀ (c : Cid) (g : List Cid → List Cid), ((s.ctx c).state = .killed → g [] = []) →
    I m (upd s c fun x => { x with children := g x.children })
  create : ∀ {m s}, I m s → ∀ (nc : Ctx), nc.state = .running → nc.restarting = none → nc.jobs = [] →
    s.registry.lookup nc.path = none → I m (create s nc)
  sub : ∀ {m s}, I m s → ∀ (c : Cid) (ty : Nat), c < s.n → Awake m c (s.ctx c) →
    I m { s with subs := esSub s.subs ty (s.ctx c).path c }
  subsFilter : ∀ {m s}, I m s → ∀ (p : Nat × Path × Cid → Bool), I m { s with subs := s.subs.filter p }
  schedule : ∀ {m s}, I m s → ∀ (c : Cid) (ref : String), c < s.n → Awake m c (s.ctx c) → I m (schedule s c ref)
  cancel : ∀ {m s}, I m s → ∀ (c : Cid) (ref key : String), (s.ctx c).jobs.lookup ref = some key →
    I m (upd { s with jobTable := s.jobTable.filter fun e => e.1 ≠ key } c fun x =>
      { x with jobs := x.jobs.filter fun e => e.1 ≠ ref })
  clearJobs : ∀ {m s}, I m s → ∀ (c : Cid), I m (clearJobs s c)
  unregister : ∀ {m s}, I m s → ∀ (p : Path), I m (unregister s p)
  /-- a running actor starts to stop (`g` sets the restart flag for a restart directive) -/
  dying : ∀ {s}, I none s → ∀ (c : Cid) (g : Option Bool → Option Bool), (s.ctx c).state = .running →
    I none (upd s c fun x => { x with state := .killing, restarting := g x.restarting })
  unflag : ∀ {m s}, I m s → ∀ (c : Cid), Awake m c (s.ctx c) → I m (upd s c fun x => { x with restarting := none })
  mark : ∀ {s}, I none s → ∀ (c : Cid), c < s.n → (s.ctx c).children = [] →
    I (some c) (upd s c fun x => { x with state := .killed })
  /-- a termination without restart ends: after `cleanup` (nothing registered or subscribed under the path of `c`, its
  mailbox resumed) the jobs of `c` are cleared, and only then the exception can be dropped -/
  finish : ∀ {s} {c : Cid}, I (some c) s → (∀ e ∈ s.registry, e.1 ≠ (s.ctx c).path) ∧
    (∀ e ∈ s.subs, e.2.1 ≠ (s.ctx c).path) ∧ (s.ctx c).paused = false → I none (ActorSys.clearJobs s c)
  zombify : ∀ {s} {c : Cid}, I (some c) s → c < s.n → I none (upd s c fun x => { x with zombie := true, paused := false })
  revive : ∀ {s} {c : Cid}, I (some c) s → c < s.n →
    I none (upd s c fun x => { x with restarting := none, state := .running, inc := x.inc + 1 })

def lz (x : Ctx) : St × Bool := (x.state, x.zombie)

theorem Frame.lz {s s' : Sys} (h : Frame s s') : Agree lz s s' :=
  h.agree fun _ _ h => congrArg (fun k : Skel => (k.state, k.zombie)) h

/-- What running user code cannot do to the actor `c` that runs it: take contexts away, or change whether `c` is
terminated or a zombie. -/
structure Keeps (c : Cid) (s s' : Sys) : Prop where
  n_le : s.n ≤ s'.n
  lz : lz (s'.ctx c) = lz (s.ctx c)

theorem Keeps.trans {self : Cid} {a b c : Sys} (h1 : Keeps self a b) (h2 : Keeps self b c) : Keeps self a c :=
  ⟨Nat.le_trans h1.n_le h2.n_le, h2.lz.trans h1.lz⟩

theorem Agree.keeps {s s' : Sys} (h : Agree lz s s') (c : Cid) : Keeps c s s' := ⟨Nat.le_of_eq h.1.symm, h.2 c⟩

theorem Frame.keeps {s s' : Sys} (h : Frame s s') (c : Cid) : Keeps c s s' := h.lz.keeps c

theorem Keeps.awake {c : Cid} {s s' : Sys} (h : Keeps c s s') {m : Option Cid} (ha : Awake m c (s.ctx c)) :
    Awake m c (s'.ctx c) := by
  unfold Awake
  rw [show (s'.ctx c).state = _ from congrArg (·.1) h.lz, show (s'.ctx c).zombie = _ from congrArg (·.2) h.lz]
  exact ha

theorem keeps_upd_ne {self c : Cid} (h : self ≠ c) (s : Sys) (f : Ctx → Ctx) : Keeps self s (upd s c f) :=
  ⟨Nat.le_refl _, by rw [upd_ctx_other h]⟩

theorem keeps_actorOf (s : Sys) (parent : Cid) (name : String) (script strat hooks : Nat) (ds : List Nat)
    {self : Cid} (hs : self < s.n) : Keeps self s (actorOf s parent name script strat hooks ds) := by
  rcases actorOf_shape s parent name script strat hooks ds with ⟨e, h⟩ | ⟨_, _, hf⟩
  · rw [h]; exact (frame_say (s := s)).keeps self
  · exact .trans ⟨Nat.le_succ _, by rw [create_ctx_old s _ (Nat.ne_of_lt hs)]⟩
      (((agree_upd _ parent _).keeps self).trans (hf.keeps self))

/-- Context slots that are not in use yet are blank: terminated, no zombie.  So an actor that may still act exists. -/
def Blank (s : Sys) : Prop := ∀ c, s.n ≤ c → (s.ctx c).state = .killed ∧ (s.ctx c).zombie = false

theorem Blank.lt {s : Sys} (hb : Blank s) {c : Cid} (ha : Awake none c (s.ctx c)) : c < s.n :=
  Nat.lt_of_not_le fun h => by
    obtain ⟨hk, hz⟩ := hb c h
    rw [ha.zombie_of_killed hk] at hz
    cases hz

theorem Blank.of_keeps {s s' : Sys} (hb : Blank s) (h : ∀ d, s'.n ≤ d → Keeps d s s') : Blank s' := fun d hd => by
  have hk := h d hd
  rw [show (s'.ctx d).state = _ from congrArg (·.1) hk.lz, show (s'.ctx d).zombie = _ from congrArg (·.2) hk.lz]
  exact hb d (Nat.le_trans hk.n_le hd)

theorem Blank.of_agree {s s' : Sys} (hb : Blank s) (h : Agree lz s s') : Blank s' := hb.of_keeps fun d _ => h.keeps d

/-- Where code of `c` runs: the invariant holds (with the exception `m`), `c` exists and may still act.  The walk below
carries this from state to state. -/
structure Acting (I : Option Cid → Sys → Prop) (m : Option Cid) (c : Cid) (s : Sys) : Prop where
  inv : I m s
  lt : c < s.n
  awake : Awake m c (s.ctx c)

namespace Acting
variable {I : Option Cid → Sys → Prop} {m : Option Cid} {self : Cid} {s s' : Sys}

theorem step (h : Acting I m self s) (hk : Keeps self s s') (hi : I m s') : Acting I m self s' :=
  ⟨hi, Nat.lt_of_lt_of_le h.lt hk.n_le, hk.awake h.awake⟩

theorem frame (h : Acting I m self s) (H : HandlerInv I) (hf : Frame s s') : Acting I m self s' :=
  h.step (hf.keeps self) (H.frame hf h.inv)

theorem pause (h : Acting I m self s) (H : HandlerInv I) (b : Bool) :
    Acting I m self (upd s self fun x => { x with paused := b }) :=
  h.step ((agree_upd s self _).keeps self) (H.pause h.inv self b h.awake)

end Acting

namespace HandlerInv
variable {I : Option Cid → Sys → Prop} (H : HandlerInv I) {m : Option Cid} {self : Cid}
include H

theorem actorOf {s : Sys} (parent : Cid) (name : String) (script strat hooks : Nat) (ds : List Nat) (hi : I m s) :
    I m (actorOf s parent name script strat hooks ds) := by
  rcases actorOf_shape s parent name script strat hooks ds with ⟨e, h⟩ | ⟨hk, hl, hf⟩
  · rw [h]; exact H.frame frame_say hi
  · refine H.frame hf (H.kids (H.create hi (newCtx _ name parent script strat hooks ds) rfl rfl rfl hl) parent
      (fun l => l.filter _ ++ [s.n]) fun h => ?_)
    -- the parent is not terminated: it is the new context, which runs, or an old one that is not
    by_cases hp : parent = s.n
    · rw [hp, create_ctx_new] at h; cases h
    · rw [create_ctx_old s _ hp] at h; exact absurd h hk

theorem runActions (cur : Env) (acts : List Action) {s : Sys} (h : Acting I m self s) :
    Acting I m self (runActions s self cur acts).s := by
  induction acts generalizing s with
  | nil => exact h
  | cons a rest ih =>
    cases a with
    | panic => exact h
    | tell _ _ | kill _ _ | watch _ | unwatch _ => exact ih (h.frame H frame_tell)
    | spawn name script kind ds hooks =>
      exact ih (h.step (keeps_actorOf s self name script kind hooks ds h.lt) (H.actorOf self name script kind hooks ds h.inv))
    | stash | become _ | unbecome => exact ih (h.frame H (frame_upd s self _))
    | unstash n => exact ih (h.frame H ((frame_foldl_enqueue _ s self).trans (frame_upd _ self _)))
    | sub ty => exact ih (h.step (Agree.keeps agree_of_eq self) (H.sub h.inv self ty h.lt h.awake))
    | unsub _ | unsubAll => exact ih (h.step (Agree.keeps agree_of_eq self) (H.subsFilter h.inv _))
    | pub ty => exact ih (h.frame H ((frame_of_eq (s' := { s with nextPub := s.nextPub + 1 })).trans frame_tellAll))
    | sched kind ref k =>
      exact ih (h.step ((agree_schedule s self ref).keeps self) (H.schedule h.inv self ref h.lt h.awake))
    | cron valid ref =>
      cases valid with
      | true => exact ih (h.step ((agree_schedule s self ref).keeps self) (H.schedule h.inv self ref h.lt h.awake))
      | false => exact ih (h.frame H frame_say)
    | cancel ref =>
      simp only [ActorSys.runActions]
      split
      · exact ih (h.frame H frame_say)
      · rename_i key hl
        exact ih ((h.step ((agree_jobs s self _ _).keeps self) (H.cancel h.inv self ref key hl)).frame H frame_say)
    | schedClear => exact ih (h.step ((agree_clearJobs s self).keeps self) (H.clearJobs h.inv self))

theorem behave (beh : Nat) (cur : Env) (msg : Msg) {s : Sys} (h : Acting I m self s) :
    Acting I m self (behave s self beh cur msg).s := by
  unfold ActorSys.behave
  by_cases hz : (s.ctx self).zombie = true
  · rw [if_pos hz]; exact h
  rw [if_neg hz]
  by_cases h0 : self = 0
  · rw [if_pos h0]; exact h.frame H (frame_guardBehave s msg)
  rw [if_neg h0]
  split
  · exact h
  · exact H.runActions cur _ (h.frame H frame_say)

theorem failed {s : Sys} (h : Acting I m self s) : Acting I m self (failed s self) :=
  (h.pause H true).frame H (failed_shape s self)

theorem execRecover (beh : Nat) (cur : Env) (msg : Msg) {s : Sys} (h : Acting I m self s) :
    Acting I m self (execRecover s self beh cur msg) := by
  have hb := H.behave beh cur msg h
  have hf := H.failed hb
  unfold ActorSys.execRecover
  dsimp only
  cases (ActorSys.behave s self beh cur msg).panicked with
  | false => exact hb
  | true =>
    rw [if_pos rfl]
    cases msg with
    | onKill _ => exact hb
    | onKilled _ => exact iteInduction (motive := Acting I m self) (fun _ => hb) fun _ => hf
    | _ => exact hf

/-- `cleanup` of an actor that may still act: a zombie, or (`m = some self`) the actor inside its termination. -/
theorem cleanup {s : Sys} (h : Acting I m self s) : I m (cleanup s self) := by
  obtain ⟨s1, hf, e⟩ := cleanup_shape s self
  rw [e]
  exact (((h.step (Agree.keeps agree_of_eq self) (H.unregister (H.subsFilter h.inv _) _)).frame H hf).pause H false).inv

theorem handleRestart {s : Sys} (hi : I (some self) s) (hs : self < s.n) : I none (handleRestart s self) := by
  have h1 := H.frame (frame_upd s self fun x => { x with behaviors := [x.script] }) hi
  by_cases hz : (s.ctx self).hooks / 4 % 2 = 1 ∨ (s.ctx self).hooks / 2 % 2 = 1
  · rw [handleRestart_zombie s self hz]
    exact H.frame frame_say (H.zombify h1 hs)
  · -- the new incarnation runs, so it may act
    have h2 : Acting I none self (upd (upd s self fun x => { x with behaviors := [x.script] }) self fun x =>
        { x with restarting := none, state := .running, inc := x.inc + 1 }) :=
      ⟨H.revive h1 hs, hs, awake_of_state (by rw [upd_ctx_self]; nofun)⟩
    cases hf : s.fixedLaunch with
    | true =>
      rw [handleRestart_relaunch s self hf hz]
      exact (H.execRecover _ _ _ ((h2.pause H false).frame H frame_say)).inv
    | false =>
      rw [handleRestart_found s self hf hz]
      exact (((h2.frame H frame_tell).pause H false).frame H frame_say).inv

theorem terminate (beh : Nat) (cur : Env) {s : Sys} (h : Acting I none self s) (hch : (s.ctx self).children = []) :
    I none (terminate s self beh cur) := by
  have h2 : Acting I (some self) self (upd s self fun x => { x with state := .killed }) :=
    ⟨H.mark h.inv self h.lt hch, h.lt, .inl rfl⟩
  cases hr : (s.ctx self).restarting.isSome with
  | true =>
    rw [terminate_restart beh cur hr]
    have h3 := H.behave beh { cur with sys := true, msg := .onKilled self } (.onKilled self) h2
    exact H.handleRestart (H.clearJobs h3.inv self) h3.lt
  | false =>
    rw [terminate_stop beh cur hr]
    exact H.finish (H.cleanup (H.execRecover beh _ _ h2)) (cleanup_post _ self)

theorem onKilled (beh : Nat) (cur : Env) (who : Cid) {s : Sys} (h : Acting I none self s) :
    I none (onKilled s self beh cur who) := by
  rw [onKilled_eq]
  -- `iteInduction` where the branches are big: `split` simplifies the whole goal once more in every branch
  refine iteInduction (motive := I none) (fun _ => H.cleanup h) fun _ => ?_
  have h1 : Acting I none self (childGone s self beh cur who) := by
    unfold childGone
    split
    · exact H.execRecover beh cur (.onKilled who) (h.step ((agree_upd s self _).keeps self)
        (H.kids h.inv self (fun l => l.filter (· ≠ who)) fun _ => rfl))
    · exact h
  refine iteInduction (motive := I none) (fun _ => h1.inv) fun hc => ?_
  exact H.terminate beh cur h1 (Decidable.not_not.mp fun h => hc (.inl h))

theorem doKill (beh : Nat) (cur : Env) (poison : Bool) {s : Sys} (h : Acting I none self s) :
    I none (doKill s self beh cur poison) := by
  unfold ActorSys.doKill
  dsimp only
  have h1 := h.frame H (@frame_tellAll (s.ctx self).children s (!poison) (some self) (.onKill poison))
  split
  · exact H.onKilled beh _ self (H.behave beh _ _ h1)
  · exact H.onKilled beh _ self (H.execRecover beh _ _ h1)

theorem onSupervise (chain : List (Cid × List Cid)) {s : Sys} (h : Acting I none self s) :
    I none (onSupervise s self chain) := by
  unfold ActorSys.onSupervise
  split
  · rcases onSuperviseDecide_shape s self chain with hf | ⟨s1, hf, hf2⟩
    · exact H.frame hf h.inv
    · exact (((h.frame H hf).pause H true).frame H hf2).inv
  · exact H.frame frame_tell h.inv

theorem handle (e : Env) {s : Sys} (hi : I none s) (hb : Blank s) : I none (handle s self e) := by
  obtain ⟨_, sys, sender, msg⟩ := e
  unfold ActorSys.handle
  refine iteInduction (motive := I none) (fun _ => ?_) fun hlive => ?_
  · cases msg with
    | deadLetter _ _ _ => exact hi
    | onKill _ =>
      refine H.frame frame_enqueue ?_
      rw [upd_ite]
      split
      · exact H.unflag hi self (awake_of_state (by rw [‹(s.ctx self).state = .killing›]; decide))
      · exact hi
    | _ => exact H.frame frame_enqueue hi
  · have ha : Awake none self (s.ctx self) := by
      by_cases hz : (s.ctx self).zombie = true
      · exact .inr (.inr hz)
      · exact awake_of_state fun hk => hlive ⟨.inl hk, by simp [hz]⟩
    have h : Acting I none self s := ⟨hi, hb.lt ha, ha⟩
    cases msg with
    | onLaunch | user _ | deadLetter _ _ _ | event _ _ => exact (H.execRecover _ _ _ h).inv
    | onKill poison =>
      refine iteInduction (motive := I none) (fun _ => H.doKill _ _ _ h) fun _ => ?_
      refine iteInduction (motive := I none) (fun hr => ?_) fun _ => H.unflag hi self ha
      exact H.doKill _ _ _ ⟨H.dying hi self id hr, h.lt, awake_of_state (by simp only [upd_ctx_self]; decide)⟩
    | onKilled w => exact H.onKilled _ _ _ h
    | supervise chain _ => exact H.onSupervise _ h
    | cmdPause => exact H.pause hi self true ha
    | cmdResume => exact H.pause hi self false ha
    | restart poison =>
      refine iteInduction (motive := I none) (fun hr => ?_) fun _ => H.pause hi self false ha
      exact H.doKill _ _ _ ⟨H.dying hi self (fun _ => some poison) hr, h.lt, awake_of_state (by simp only [upd_ctx_self]; decide)⟩
    | watch =>
      cases sender with
      | none => exact hi
      | some w => exact H.frame (frame_ite (.refl s) (frame_upd s self _)) hi
    | unwatch =>
      cases sender with
      | none => exact hi
      | some w => exact H.frame (frame_upd s self _) hi

end HandlerInv

/-! Executions.  An `Op` is what one line of the lock-step protocol does: `step` in `Engine/ActorSys.lean` makes the same calls
and then clears the log (by inspection of those few lines; no lemma relates the two). -/

inductive Op where
  | deliver (c : Cid)
  | spawn (name : String) (script kind hooks : Nat) (ds : List Nat)      -- System.ActorOf
  | tell (t : Target) (k : Nat)
  | kill (t : Target) (poison : Bool)
  | mkref (r : Nat) (path : Path)
  | setScript (sid : Nat) (sc : Script)
  | clearLog

def applyOp (s : Sys) : Op → Sys
  | .deliver c => (deliver s c).getD s
  | .spawn name script kind hooks ds => actorOf s 0 name script kind hooks ds
  | .tell t k => tell s false (some 0) t (.user k)
  | .kill t poison => tell s (!poison) (some 0) t (.onKill poison)
  | .mkref r path => { s with refs := (r, path, none) :: s.refs.filter (fun e => e.1 ≠ r) }
  | .setScript sid sc => { s with scripts := (sid, sc) :: s.scripts.filter (fun e => e.1 ≠ sid) }
  | .clearLog => { s with log := [] }

def run (fixedLaunch : Bool) (ops : List Op) : Sys := ops.foldl applyOp (init fixedLaunch)

theorem HandlerInv.applyOp {I : Option Cid → Sys → Prop} (H : HandlerInv I) {s : Sys} (o : Op) (hi : I none s)
    (hb : Blank s) : I none (applyOp s o) := by
  cases o with
  | deliver c =>
    show I none ((deliver s c).getD s)
    rw [deliver_eq]
    cases nextMail (s.ctx c) with
    | none => exact hi
    | some e =>
      have hf := frame_popMail s c
      exact H.handle e (H.frame hf hi) (hb.of_agree hf.lz)
  | spawn name script kind hooks ds => exact H.actorOf 0 name script kind hooks ds hi
  | tell t k => exact H.frame (@frame_tell s false (some 0) t (.user k)) hi
  | kill t poison => exact H.frame (@frame_tell s (!poison) (some 0) t (.onKill poison)) hi
  | mkref _ _ | setScript _ _ | clearLog => exact H.frame frame_of_eq hi

/-- `Blank` survives everything: a handler touches the state or zombie flag of existing contexts only. -/
theorem blank_handlerInv : HandlerInv fun _ => Blank where
  frame hf hb := hb.of_agree hf.lz
  pause hb c b _ := hb.of_agree (agree_upd _ c _)
  kids hb c g _ := hb.of_agree (agree_upd _ c _)
  create {m s} hb nc _ _ _ _ := hb.of_keeps fun d hd =>
    ⟨Nat.le_succ _, by rw [create_ctx_old s _ (Nat.ne_of_gt (Nat.lt_of_succ_le hd))]⟩
  sub hb c ty _ _ := hb.of_agree agree_of_eq
  subsFilter hb p := hb.of_agree agree_of_eq
  schedule hb c ref _ _ := hb.of_agree (agree_schedule _ c ref)
  cancel hb c ref key _ := hb.of_agree (agree_jobs _ c _ _)
  clearJobs hb c := hb.of_agree (agree_clearJobs _ c)
  unregister hb p := hb.of_agree agree_of_eq
  dying {s} hb c g hr := hb.of_keeps fun d hd =>
    keeps_upd_ne (fun h => by subst h; rw [(hb d hd).1] at hr; cases hr) s _
  unflag hb c _ := hb.of_agree (agree_upd _ c _)
  mark {s} hb c hc _ := hb.of_keeps fun d hd => keeps_upd_ne (Nat.ne_of_gt (Nat.lt_of_lt_of_le hc hd)) s _
  finish hb _ := hb.of_agree (agree_clearJobs _ _)
  zombify {s c} hb hc := hb.of_keeps fun d hd => keeps_upd_ne (Nat.ne_of_gt (Nat.lt_of_lt_of_le hc hd)) s _
  revive {s c} hb hc := hb.of_keeps fun d hd => keeps_upd_ne (Nat.ne_of_gt (Nat.lt_of_lt_of_le hc hd)) s _

theorem blank_init (f : Bool) : Blank (init f) := fun c hc => by
  rw [show (init f).ctx c = blankCtx from if_neg (Nat.ne_of_gt hc)]
  exact ⟨rfl, rfl⟩

theorem HandlerInv.run {I : Option Cid → Sys → Prop} (H : HandlerInv I) (f : Bool) (h0 : I none (init f))
    (ops : List Op) : I none (run f ops) :=
  (List.foldlRecOn (motive := fun s => I none s ∧ Blank s) ops ActorSys.applyOp ⟨h0, blank_init f⟩
    fun _ h o _ => ⟨H.applyOp o h.1 h.2, blank_handlerInv.applyOp o h.2 h.2⟩).1

end Vivid.ActorSys
