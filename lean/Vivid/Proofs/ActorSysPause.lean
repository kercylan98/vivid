import Vivid.Proofs.ActorSysRule

/-! The pause flags of M10 (`PauseInv`: the mailbox of a terminated actor is not left paused) as a handler invariant.
Property theorem: `Props/C09Global.lean`. -/
namespace Vivid.ActorSys

def plife (x : Ctx) : St × Bool × Option Bool × Bool := (x.state, x.zombie, x.restarting, x.paused)

def SameP (s s' : Sys) : Prop := s'.n = s.n ∧ ∀ c, plife (s'.ctx c) = plife (s.ctx c)

theorem sp_upd {a x : Sys} (c : Cid) (f : Ctx → Ctx) (hf : ∀ y, plife (f y) = plife y) (h : SameP a x) :
    SameP a (upd x c f) := Agree.trans h (agree_upd x c f hf)

/-- The mailbox of `c` (context record `x`) is not held: `c` may still act, or is not paused. -/
def Calm (ex : Option Cid) (c : Cid) (x : Ctx) : Prop := Awake ex c x ∨ x.paused = false

/-- A terminated actor (not a zombie) does not have a paused mailbox: mail that still reaches it drains into dead letters
instead of being held forever.  `ex` is the actor inside its own termination. -/
def PauseInv (ex : Option Cid) (s : Sys) : Prop := ∀ c, Calm ex c (s.ctx c)

theorem pinv_sameP {ex : Option Cid} {s s' : Sys} (h : SameP s s') (hi : PauseInv ex s) : PauseInv ex s' := fun c =>
  (hi c).imp ((Agree.mono (π := plife) h fun _ _ e => congrArg (fun k => (k.1, k.2.1)) e).keeps c).awake
    ((congrArg (·.2.2.2) (h.2 c)).trans ·)

theorem Frame.sameP {s s' : Sys} (h : Frame s s') : SameP s s' :=
  h.agree fun _ _ h => congrArg (fun k : Skel => (k.state, k.zombie, k.restarting, k.paused)) h

theorem pinv_upd {ex ex' : Option Cid} {s : Sys} (c : Cid) (f : Ctx → Ctx) (hi : PauseInv ex s)
    (hc : Calm ex' c (f (s.ctx c))) (ho : ∀ d x, d ≠ c → Awake ex d x → Awake ex' d x := by exact fun _ _ _ h => h) :
    PauseInv ex' (upd s c f) := fun d => by
  by_cases h : d = c
  · rw [h, upd_ctx_self]; exact hc
  · rw [upd_ctx_other h]; exact (hi d).imp_left (ho d _ h)

theorem pinv_handlerInv : HandlerInv PauseInv where
  frame hf := pinv_sameP hf.sameP
  pause hi c b ha := pinv_upd c _ hi (.inl ha)
  kids hi c g _ := pinv_sameP (agree_upd _ c _) hi
  create {m s} hi nc hrun _ _ _ := fun d => by
    by_cases h : d = s.n
    · rw [h, create_ctx_new]; exact .inl (awake_of_state (by rw [hrun]; nofun))
    · rw [create_ctx_old s _ h]; exact hi d
  sub hi c ty _ _ := pinv_sameP agree_of_eq hi
  subsFilter hi p := pinv_sameP agree_of_eq hi
  schedule hi c ref _ _ := pinv_sameP (agree_schedule _ c ref) hi
  cancel hi c ref key _ := pinv_sameP (agree_jobs _ c _ _) hi
  clearJobs hi c := pinv_sameP (agree_clearJobs _ c) hi
  unregister hi p := pinv_sameP agree_of_eq hi
  dying hi c g _ := pinv_upd c _ hi (.inl (awake_of_state fun h => by cases h))
  unflag hi c ha := pinv_upd c _ hi (.inl ha)
  mark hi c _ _ := pinv_upd c _ hi (.inl (.inl rfl)) fun _ _ _ h => h.of_none
  finish {s c} hi hr := pinv_sameP (agree_clearJobs _ c) fun d =>
    if h : d = c then .inr (h ▸ hr.2.2) else (hi d).imp_left (·.drop h)
  zombify hi _ := pinv_upd _ _ hi (.inl (.inr (.inr rfl))) fun _ _ hd h => h.drop hd
  revive hi _ := pinv_upd _ _ hi (.inl (awake_of_state fun h => by cases h)) fun _ _ hd h => h.drop hd

theorem pinv_init (f : Bool) : PauseInv none (init f) := fun c => .inr (by
  rcases init_ctx f c with hc | hc <;> rw [hc] <;> rfl)

end Vivid.ActorSys
