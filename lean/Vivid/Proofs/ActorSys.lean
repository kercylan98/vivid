import Vivid.Model.ActorSys
import Vivid.Proofs.Assoc

/-! Equations of the micro-operations of M10 (`upd`, `say`, `enqueue`, `tell`, the creation of a context) and of the functions
whose bodies bind many intermediate values or end in several ways (`onSuperviseDecide` = `directive` of what its first half
computes, `onKilled`, `handleRestart`, `handle` on an envelope it does not dispatch, `deliver`), stated once so that the proofs
about them need not unfold them. -/
namespace Vivid.ActorSys

theorem forall_mem_snoc {α} {p : α → Prop} {l : List α} {a : α} (hl : ∀ x ∈ l, p x) (ha : p a) :
    ∀ x ∈ l ++ [a], p x :=
  List.forall_mem_append.2 ⟨hl, List.forall_mem_singleton.2 ha⟩

@[simp] theorem upd_ctx_self (s : Sys) (c : Cid) (f : Ctx → Ctx) : (upd s c f).ctx c = f (s.ctx c) := by
  simp [upd]

theorem upd_ctx_other {s : Sys} {c d : Cid} {f : Ctx → Ctx} (h : d ≠ c) : (upd s c f).ctx d = s.ctx d := by
  simp [upd, h]

@[simp] theorem upd_registry (s : Sys) (c : Cid) (f : Ctx → Ctx) : (upd s c f).registry = s.registry := rfl
@[simp] theorem upd_n (s : Sys) (c : Cid) (f : Ctx → Ctx) : (upd s c f).n = s.n := rfl
@[simp] theorem say_ctx (s : Sys) (e : String) : (say s e).ctx = s.ctx := rfl
@[simp] theorem say_registry (s : Sys) (e : String) : (say s e).registry = s.registry := rfl
@[simp] theorem say_n (s : Sys) (e : String) : (say s e).n = s.n := rfl

@[simp] theorem enqueue_registry (s : Sys) (c : Cid) (e : Env) : (enqueue s c e).registry = s.registry := rfl
@[simp] theorem enqueue_n (s : Sys) (c : Cid) (e : Env) : (enqueue s c e).n = s.n := rfl

theorem init_ctx (f : Bool) (c : Cid) : (init f).ctx c = rootCtx ∨ (init f).ctx c = blankCtx := by
  unfold init
  dsimp only
  split
  · exact .inl rfl
  · exact .inr rfl

/-- The context `actorOf` makes for a new child, and the state change that brings it into being (`create`): the next free
slot, entered in the registry under its path. -/
def newCtx (path : Path) (name : String) (parent : Cid) (script strat hooks : Nat) (ds : List Nat) : Ctx :=
  { blankCtx with path := path, name := name, parent := some parent, state := .running, script := script,
                  behaviors := [script], strat := strat, decisions := ds, hooks := hooks }

def create (s : Sys) (nc : Ctx) : Sys :=
  { s with n := s.n + 1, ctx := fun x => if x = s.n then nc else s.ctx x, registry := (nc.path, s.n) :: s.registry }

theorem create_ctx_new (s : Sys) (nc : Ctx) : (create s nc).ctx s.n = nc := if_pos rfl

theorem create_ctx_old (s : Sys) (nc : Ctx) {d : Cid} (h : d ≠ s.n) : (create s nc).ctx d = s.ctx d := if_neg h

def push (e : Env) (x : Ctx) : Ctx :=
  if e.sys then { x with sysQ := x.sysQ ++ [e] } else { x with userQ := x.userQ ++ [e] }

theorem enqueue_eq (s : Sys) (c : Cid) (e : Env) : enqueue s c e = upd s c (push e) := rfl

theorem foldl_enqueue_ctx (l : List Env) (s : Sys) (c : Cid) :
    (l.foldl (fun acc e => enqueue acc c e) s).ctx c =
      { s.ctx c with sysQ := (s.ctx c).sysQ ++ l.filter (fun e => e.sys),
                     userQ := (s.ctx c).userQ ++ l.filter (fun e => !e.sys) } := by
  induction l generalizing s with
  | nil => simp
  | cons e t ih =>
    rw [List.foldl_cons, ih, enqueue_eq, upd_ctx_self, push]
    cases hs : e.sys <;> simp [hs]

def dlEnv (e : Env) : Env :=
  { id := 0, sys := false, sender := some 0,
    msg := .deadLetter (match e.msg with | .deadLetter x _ _ => x | _ => e.id)
      (match e.msg with | .deadLetter _ u _ => u | .user _ => true | _ => false)
      (match e.msg with | .deadLetter _ _ d => d + 1 | _ => 0) }

theorem deadLetter_eq (s : Sys) (e : Env) : deadLetter s e = enqueue s 0 (dlEnv e) := rfl

theorem deadLetter_registry (s : Sys) (e : Env) : (deadLetter s e).registry = s.registry := rfl

theorem schedule_registry (s : Sys) (c : Cid) (ref : String) : (schedule s c ref).registry = s.registry :=
  iteInduction (motive := fun x : Sys => x.registry = s.registry) (fun _ => rfl) fun _ => rfl

theorem resolve_eq (s : Sys) (t : Target) : ∃ refs, (resolve s t).1 = { s with refs := refs } := by
  fun_cases resolve s t <;> exact ⟨_, rfl⟩

def tellEnv (s : Sys) (sys : Bool) (sender : Option Cid) (m : Msg) : Env :=
  { id := match m with | .user _ => s.nextEnv | _ => 0, sys := sys, sender := sender, msg := m }

def tellNext (s : Sys) : Msg → Nat
  | .user _ => s.nextEnv + 1
  | _ => s.nextEnv

theorem tell_explicit (s : Sys) (sys : Bool) (sender : Option Cid) (t : Target) (m : Msg) :
    tell s sys sender t m =
      match (resolve s t).2 with
      | some c => enqueue { (resolve s t).1 with nextEnv := tellNext (resolve s t).1 m } c (tellEnv (resolve s t).1 sys sender m)
      | none => deadLetter { (resolve s t).1 with nextEnv := tellNext (resolve s t).1 m } (tellEnv (resolve s t).1 sys sender m) := by
  unfold tell
  generalize resolve s t = r
  cases m <;> rfl

theorem tell_eq (s : Sys) (sys : Bool) (sender : Option Cid) (t : Target) (m : Msg) :
    ∃ refs nx c e, tell s sys sender t m = enqueue { s with refs := refs, nextEnv := nx } c e := by
  rw [tell_explicit]
  obtain ⟨refs, h⟩ := resolve_eq s t
  rw [h]
  cases (resolve s t).2 <;> exact ⟨_, _, _, _, rfl⟩

theorem tell_state (s : Sys) (sys : Bool) (sender : Option Cid) (t : Target) (m : Msg) (d : Cid) :
    ((tell s sys sender t m).ctx d).state = (s.ctx d).state ∧
    ((tell s sys sender t m).ctx d).children = (s.ctx d).children ∧
    ((tell s sys sender t m).ctx d).paused = (s.ctx d).paused ∧
    ((tell s sys sender t m).ctx d).zombie = (s.ctx d).zombie ∧
    ((tell s sys sender t m).ctx d).stash = (s.ctx d).stash := by
  obtain ⟨_, _, c, e, h⟩ := tell_eq s sys sender t m
  rw [h, enqueue_eq]
  by_cases hd : d = c
  · subst hd; rw [upd_ctx_self]; unfold push; split <;> exact ⟨rfl, rfl, rfl, rfl, rfl⟩
  · rw [upd_ctx_other hd]; exact ⟨rfl, rfl, rfl, rfl, rfl⟩

/-- Where a context reports upwards: its parent's own reference, or the nil reference (the root's parent). -/
def upTarget (x : Ctx) : Target := match x.parent with | some p => .own p | none => .nobody

theorem tell_own (s : Sys) (sys : Bool) (sender : Option Cid) (c : Cid) (m : Msg) :
    tell s sys sender (.own c) m = enqueue { s with nextEnv := tellNext s m } c (tellEnv s sys sender m) :=
  tell_explicit s sys sender (.own c) m

theorem tell_up (s : Sys) (sys : Bool) (sender : Option Cid) (x : Ctx) (m : Msg) :
    tell s sys sender (upTarget x) m = enqueue { s with nextEnv := tellNext s m } (x.parent.getD 0) (tellEnv s sys sender m) := by
  unfold upTarget
  cases x.parent <;> exact tell_explicit s sys sender _ m

def targetsOf (s : Sys) (sup failed : Cid) : List Cid :=
  if (s.ctx sup).strat = 0 ∨ (s.ctx sup).strat = 1 then [failed] else (s.ctx sup).children

def failedOf (self : Cid) : List (Cid × List Cid) → Cid
  | (f, _) :: _ => f
  | [] => self

def decisionOf (x : Ctx) : Nat :=
  if x.strat = 0 then 3 else x.decisions.getD (x.decIdx % (max x.decisions.length 1)) 3

def rechain (targets : List Cid) : List (Cid × List Cid) → List (Cid × List Cid)
  | (f, _) :: rest => (f, targets) :: rest
  | [] => []

/-- The second half of `onSuperviseDecide`, with what the first half computes as parameters: pause `targets`, then
apply `decision` to them; `allT` are the targets recorded along the escalation chain `chain'`, `up` is where an
escalation goes. -/
def directive (s : Sys) (self : Cid) (decision : Nat) (targets allT : List Cid) (chain' : List (Cid × List Cid))
    (up : Target) : Sys :=
  let s2 := tellAll s true (some self) targets .cmdPause
  if decision = 1 then tellAll s2 true (some self) targets (.restart false)
  else if decision = 2 then
    tellAll (tellAll s2 false (some self) targets (.restart true)) true (some self) allT .cmdResume
  else if decision = 3 then tellAll s2 true (some self) targets (.onKill false)
  else if decision = 4 then
    tellAll (tellAll s2 false (some self) targets (.onKill true)) true (some self) allT .cmdResume
  else if decision = 5 then tellAll s2 true (some self) allT .cmdResume
  else tell (upd s2 self (fun x => { x with paused := true })) true (some self) up (.supervise ((self, []) :: chain') [])

theorem directive_cases {P : Sys → Prop} (s : Sys) (self : Cid) (decision : Nat) (targets allT : List Cid)
    (chain' : List (Cid × List Cid)) (up : Target)
    (now : ∀ m, (decision = 1 ∧ m = .restart false) ∨ (decision = 3 ∧ m = .onKill false) →
      P (tellAll (tellAll s true (some self) targets .cmdPause) true (some self) targets m))
    (graceful : ∀ m, (decision = 2 ∧ m = .restart true) ∨ (decision = 4 ∧ m = .onKill true) →
      P (tellAll (tellAll (tellAll s true (some self) targets .cmdPause) false (some self) targets m) true (some self) allT .cmdResume))
    (resume : decision = 5 → P (tellAll (tellAll s true (some self) targets .cmdPause) true (some self) allT .cmdResume))
    (escalate : (∀ k ∈ [1, 2, 3, 4, 5], decision ≠ k) →
      P (tell (upd (tellAll s true (some self) targets .cmdPause) self fun x => { x with paused := true }) true (some self) up
        (.supervise ((self, []) :: chain') []))) :
    P (directive s self decision targets allT chain' up) :=
  iteInduction (fun h1 => now _ (.inl ⟨h1, rfl⟩)) fun h1 =>
  iteInduction (fun h2 => graceful _ (.inl ⟨h2, rfl⟩)) fun h2 =>
  iteInduction (fun h3 => now _ (.inr ⟨h3, rfl⟩)) fun h3 =>
  iteInduction (fun h4 => graceful _ (.inr ⟨h4, rfl⟩)) fun h4 =>
  iteInduction resume fun h5 => escalate (by
    simp only [List.mem_cons, List.not_mem_nil, or_false, forall_eq_or_imp, forall_eq]
    exact ⟨h1, h2, h3, h4, h5⟩)

theorem onSuperviseDecide_eq (s : Sys) (self : Cid) (chain : List (Cid × List Cid)) :
    onSuperviseDecide s self chain =
      let targets := targetsOf s self (failedOf self chain)
      let chain' := rechain targets chain
      directive
        (say (if (s.ctx self).strat = 0 then s else upd s self (fun x => { x with decIdx := x.decIdx + 1 }))
          s!"decide:{self}:{failedOf self chain}:{decisionOf (s.ctx self)}")
        self (decisionOf (s.ctx self)) targets (chain'.map (·.2)).flatten chain' (upTarget (s.ctx self)) := by
  cases chain <;> rfl

theorem onSuperviseDecide_one (s : Sys) (sup f : Cid) (rest : List (Cid × List Cid)) (k : Nat)
    (hs : (s.ctx sup).strat = 1) (hd : (s.ctx sup).decisions = [k]) :
    onSuperviseDecide s sup ((f, []) :: rest) =
      directive (say (upd s sup fun x => { x with decIdx := x.decIdx + 1 }) s!"decide:{sup}:{f}:{k}") sup k [f]
        ([f] ++ (rest.map (·.2)).flatten) ((f, [f]) :: rest) (upTarget (s.ctx sup)) := by
  have hk : decisionOf (s.ctx sup) = k := by simp [decisionOf, hs, hd, Nat.mod_one]
  have ht : targetsOf s sup f = [f] := by simp [targetsOf, hs]
  rw [onSuperviseDecide_eq]
  simp only [failedOf, rechain, hk, ht, hs, if_neg (show ¬ (1 = 0) by decide)]
  rfl

/-- `handleChildDeath`: what `onKilled` does first with a death notice about somebody else. -/
def childGone (s : Sys) (self : Cid) (beh : Nat) (cur : Env) (who : Cid) : Sys :=
  if who ≠ self then
    execRecover (upd s self (fun x => { x with children := x.children.filter (· ≠ who) })) self beh cur (.onKilled who)
  else s

/-- Last phase of `onKilled`, entered when no child is left and the actor is stopping: mark it terminated, run its
behaviour on `OnKilled(self)`, then finish the restart in progress, or clean up. -/
def terminate (s : Sys) (self : Cid) (beh : Nat) (cur : Env) : Sys :=
  let s2 := upd s self (fun x => { x with state := .killed })
  let restarting := (s.ctx self).restarting.isSome
  let cur' : Env := { cur with sys := true, msg := .onKilled self }
  let s3 := if restarting then execSwallow s2 self beh cur' (.onKilled self) else execRecover s2 self beh cur' (.onKilled self)
  let s4 := if restarting then s3 else cleanup s3 self
  let s5 := clearJobs s4 self
  if restarting then handleRestart s5 self else s5

theorem onKilled_eq (s : Sys) (self : Cid) (beh : Nat) (cur : Env) (who : Cid) :
    onKilled s self beh cur who =
      if (s.ctx self).zombie then cleanup s self
      else if ((childGone s self beh cur who).ctx self).children ≠ [] ∨
          ((childGone s self beh cur who).ctx self).state ≠ .killing then childGone s self beh cur who
      else terminate (childGone s self beh cur who) self beh cur := rfl

theorem terminate_restart {s : Sys} {self : Cid} (beh : Nat) (cur : Env) (h : (s.ctx self).restarting.isSome = true) :
    terminate s self beh cur = handleRestart (clearJobs (execSwallow (upd s self (fun x => { x with state := .killed }))
      self beh { cur with sys := true, msg := .onKilled self } (.onKilled self)) self) self := by
  simp only [terminate, h, if_true]

theorem terminate_stop {s : Sys} {self : Cid} (beh : Nat) (cur : Env) (h : (s.ctx self).restarting.isSome = false) :
    terminate s self beh cur = clearJobs (cleanup (execRecover (upd s self (fun x => { x with state := .killed }))
      self beh { cur with sys := true, msg := .onKilled self } (.onKilled self)) self) self := by
  simp only [terminate, h, Bool.false_eq_true, if_false]

/-- The state in which the new incarnation starts: behaviour stack reset to the actor's own
OnReceive, incarnation bumped, running, restart flag cleared, mailbox unpaused. -/
def relaunchState (s : Sys) (c : Cid) : Sys :=
  say (upd (upd (upd s c (fun x => { x with behaviors := [x.script] })) c
    (fun x => { x with restarting := none, state := .running, inc := x.inc + 1 })) c
    (fun x => { x with paused := false })) s!"restarted:{c}"

theorem relaunchState_ctx_self (s : Sys) (c : Cid) :
    (relaunchState s c).ctx c =
      { s.ctx c with behaviors := [(s.ctx c).script], restarting := none, state := .running, inc := (s.ctx c).inc + 1,
                     paused := false } := by
  simp only [relaunchState, say_ctx, upd_ctx_self]

/-- The three ways `handleRestart` ends.  A failing hook (`OnRestarted`, or `OnPrelaunch` of the new incarnation): the
zombie transition. -/
theorem handleRestart_zombie (s : Sys) (c : Cid) (h : (s.ctx c).hooks / 4 % 2 = 1 ∨ (s.ctx c).hooks / 2 % 2 = 1) :
    handleRestart s c =
      say (upd (upd s c fun x => { x with behaviors := [x.script] }) c fun x => { x with zombie := true, paused := false })
        s!"zombie:{c}" := by
  simp only [handleRestart, h, if_true]

/-- Repaired code: the new incarnation handles its OnLaunch at once. -/
theorem handleRestart_relaunch (s : Sys) (c : Cid) (hf : s.fixedLaunch = true)
    (h : ¬ ((s.ctx c).hooks / 4 % 2 = 1 ∨ (s.ctx c).hooks / 2 % 2 = 1)) :
    handleRestart s c =
      execRecover (relaunchState s c) c (s.ctx c).script { id := 0, sys := true, sender := some c, msg := .onLaunch } .onLaunch := by
  simp only [handleRestart, h, if_false, hf, if_true, relaunchState]

/-- The code as found: the OnLaunch goes to the parent, before the mailbox is unpaused. -/
theorem handleRestart_found (s : Sys) (c : Cid) (hf : s.fixedLaunch = false)
    (h : ¬ ((s.ctx c).hooks / 4 % 2 = 1 ∨ (s.ctx c).hooks / 2 % 2 = 1)) :
    handleRestart s c =
      say (upd (tell (upd (upd s c fun x => { x with behaviors := [x.script] }) c fun x =>
          { x with restarting := none, state := .running, inc := x.inc + 1 }) true (some c) (upTarget (s.ctx c)) .onLaunch)
        c fun x => { x with paused := false }) s!"restarted:{c}" := by
  simp only [handleRestart, h, hf, if_false, Bool.false_eq_true]
  rfl

/-- The test at the head of `HandleEnvelop`: the actor is terminated, or it is stopping and the envelope is user mail;
a zombie dispatches everything. -/
abbrev Undeliverable (x : Ctx) (sys : Bool) : Prop := (x.state = .killed ∨ (!sys ∧ x.state ≠ .running)) ∧ !x.zombie

theorem undeliverable_iff {x : Ctx} {sys : Bool} :
    Undeliverable x sys ↔ x.zombie = false ∧ (x.state = .killed ∨ sys = false ∧ x.state ≠ .running) := by
  simp [Undeliverable, and_comm]

theorem handle_undeliverable (s : Sys) (c : Cid) (e : Env) (h : Undeliverable (s.ctx c) e.sys) :
    handle s c e =
      match e.msg with
      | .deadLetter _ _ _ => s
      | .onKill _ => deadLetter (upd s c fun x => if x.state = .killing then { x with restarting := none } else x) e
      | _ => deadLetter s e := by
  unfold handle
  rw [if_pos h]
  rfl

/-- The envelope the mailbox of a context hands out next (system queue first, user queue only
when not paused). -/
def nextMail (x : Ctx) : Option Env :=
  match x.sysQ with
  | e :: _ => some e
  | [] => if x.paused then none else x.userQ.head?

def popMail (s : Sys) (c : Cid) : Sys :=
  match (s.ctx c).sysQ with
  | _ :: rest => upd s c (fun y => { y with sysQ := rest })
  | [] =>
    match (s.ctx c).userQ with
    | _ :: rest => upd s c (fun y => { y with userQ := rest })
    | [] => s

theorem deliver_eq (s : Sys) (c : Cid) :
    deliver s c = (nextMail (s.ctx c)).map (fun e => handle (popMail s c) c e) := by
  simp only [deliver, nextMail, popMail]
  generalize (s.ctx c).sysQ = sq, (s.ctx c).paused = p, (s.ctx c).userQ = uq
  cases sq <;> cases p <;> cases uq <;> rfl

end Vivid.ActorSys
