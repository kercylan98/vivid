/-!
Keyed association lists, once.  The Go maps of the cluster package (`VersionVector.m`,
`ClusterView.Members`) are modelled by their own `get/has/set` and `lookup/setM` on lists of pairs;
both are `find`/`put` below, and both merge loops (`VV.mergeInto`, `View.mergeMembers`) are `mergeWith`.
-/
namespace List

theorem mem_of_lookup_eq_some {α β : Type} [BEq α] [LawfulBEq α] {l : List (α × β)} {a : α} {b : β}
    (h : l.lookup a = some b) : (a, b) ∈ l := by
  obtain ⟨l₁, l₂, rfl, _⟩ := lookup_eq_some_iff.mp h
  exact List.mem_append_right _ (List.mem_cons_self ..)

theorem Nodup.concat {α : Type} {l : List α} {a : α} (h : l.Nodup) (ha : a ∉ l) : (l ++ [a]).Nodup :=
  List.nodup_append.2 ⟨h, List.nodup_cons.2 ⟨List.not_mem_nil, List.nodup_nil⟩,
    fun _ hx _ hy e => ha (List.mem_singleton.1 hy ▸ e ▸ hx)⟩

end List

namespace Vivid.Assoc
variable {κ β : Type} [DecidableEq κ]

def find : List (κ × β) → κ → Option β
  | [], _ => none
  | (k', b) :: t, k => if k' = k then some b else find t k

def put : List (κ × β) → κ → β → List (κ × β)
  | [], k, b => [(k, b)]
  | (k', b') :: t, k, b => if k' = k then (k', b) :: t else (k', b') :: put t k b

abbrev keys (l : List (κ × β)) : List κ := l.map (·.1)

theorem find_put (l : List (κ × β)) (k : κ) (b : β) (k' : κ) :
    find (put l k b) k' = if k = k' then some b else find l k' := by
  induction l with
  | nil => rfl
  | cons e t ih =>
    by_cases h : e.1 = k
    · subst h; simp only [put, find, if_true]; split <;> rfl
    · simp only [put, find, h, if_false, ih]
      split
      · rename_i h'; rw [if_neg (h' ▸ Ne.symm h)]
      · rfl

theorem find_eq_none {l : List (κ × β)} {k : κ} (h : k ∉ keys l) : find l k = none := by
  induction l with
  | nil => rfl
  | cons e t ih =>
    rw [find, if_neg fun he : e.1 = k => h (he ▸ List.mem_cons_self ..), ih fun ht => h (List.mem_cons_of_mem _ ht)]

theorem find_filter (l : List (κ × β)) {p : κ → Bool} {k : κ} (hk : p k = true) :
    find (l.filter fun e => p e.1) k = find l k := by
  induction l with
  | nil => rfl
  | cons e t ih =>
    rw [List.filter_cons]
    split
    · rw [find, find, ih]
    · next hc => rw [ih, find, if_neg fun h : e.1 = k => hc (h ▸ hk)]

theorem keys_put (l : List (κ × β)) (k : κ) (b : β) :
    keys (put l k b) = if k ∈ keys l then keys l else keys l ++ [k] := by
  induction l with
  | nil => rfl
  | cons e t ih =>
    by_cases h : e.1 = k
    · rw [put, if_pos h, if_pos (h ▸ List.mem_cons_self ..)]; rfl
    · simp only [put, h, if_false, keys, List.map_cons, List.mem_cons, Ne.symm h, false_or] at ih ⊢
      rw [ih]; split <;> rfl

theorem nodup_put {l : List (κ × β)} (h : (keys l).Nodup) (k : κ) (b : β) : (keys (put l k b)).Nodup := by
  rw [keys_put]; split
  · exact h
  · exact h.concat ‹_›

theorem mem_iff_find {l : List (κ × β)} (h : (keys l).Nodup) (k : κ) (b : β) :
    (k, b) ∈ l ↔ find l k = some b := by
  induction l with
  | nil => simp [find]
  | cons e t ih =>
    obtain ⟨k0, b0⟩ := e
    obtain ⟨hk, ht⟩ := List.nodup_cons.1 h
    by_cases he : k0 = k
    · subst he
      have : (k0, b) ∉ t := fun hm => hk (List.mem_map_of_mem (f := (·.1)) hm)
      simp [find, this, eq_comm]
    · simp [find, he, ih ht, Ne.symm he]

/-- Which of two values for a key a merge keeps: the other side's (second argument) where it is `better` than the
local one.  `Option.merge` hands the local value to its function first, hence the swapped binders. -/
def pick (better : β → β → Bool) : Option β → Option β → Option β :=
  Option.merge fun y x => if better x y then x else y

theorem pick_eq_or (better : β → β → Bool) (x y : Option β) :
    pick better x y = x ∨ pick better x y = y :=
  Option.merge_eq_or_eq (fun _ _ => if h : _ then .inr (if_pos h) else .inl (if_neg h)) x y

def mergeWith (better : β → β → Bool) : List (κ × β) → List (κ × β) → List (κ × β)
  | out, [] => out
  | out, (k, x) :: t =>
    if (find out k).all (better x) then mergeWith better (put out k x) t else mergeWith better out t

theorem find_mergeWith (better : β → β → Bool) {o : List (κ × β)} (ho : (keys o).Nodup) (k : κ) :
    ∀ out, find (mergeWith better out o) k = pick better (find out k) (find o k) := by
  induction o with
  | nil => intro out; simp only [mergeWith]; cases find out k <;> rfl
  | cons e t ih =>
    intro out
    obtain ⟨k0, x⟩ := e
    obtain ⟨hk, ht⟩ := List.nodup_cons.1 ho
    simp only [mergeWith, find]
    by_cases he : k0 = k
    · subst he
      have hn := find_eq_none hk
      cases hf : find out k0 with
      | none => simp [ih ht, find_put, hn, pick]
      | some y => by_cases hb : better x y = true <;> simp [hb, ih ht, find_put, hn, hf, pick]
    · rw [if_neg he]; split <;> simp only [ih ht, find_put, he, if_false]

theorem nodup_mergeWith (better : β → β → Bool) (o : List (κ × β)) :
    ∀ out, (keys out).Nodup → (keys (mergeWith better out o)).Nodup := by
  induction o with
  | nil => exact fun _ h => h
  | cons e t ih =>
    intro out h; simp only [mergeWith]
    split
    · exact ih _ (nodup_put h _ _)
    · exact ih _ h

end Vivid.Assoc
