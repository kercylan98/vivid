import Vivid.Proofs.ActorSysTables

/-!
# C19 / C20 — the event-stream table and the scheduler queue, over every execution

Same executions as in `C06Global` (`run`: any list of handler steps and outside operations,
handlers running arbitrary scripts — including Subscribe / Unsubscribe / UnsubscribeAll, Once /
Loop / Cron / Cancel / Clear at any point of any handler, also inside the own OnKill / OnKilled
handlers).

* `C19_terminated_holds_no_subscription`: in every reachable state no subscription belongs to a
  terminated actor (a zombie excepted): what a dying actor subscribed to — even in its last
  handler — is gone when its termination is complete; and every subscription is recorded under
  its subscriber's own path.
* `C20_jobs_die_with_their_actor`: in every reachable state no queued job is owned by a
  terminated actor (a zombie excepted), and `C20_queued_job_is_recorded`: every queued job is
  recorded in its owner's reference table under the key `path#reference`, so Cancel and Clear
  can always find it.
-/
namespace Vivid.ActorSys

theorem M10_tables_invariant (fixedLaunch : Bool) (ops : List Op) : TablesInv none (run fixedLaunch ops) :=
  tinv_handlerInv.run fixedLaunch (tinv_init fixedLaunch) ops

theorem C19_terminated_holds_no_subscription (fixedLaunch : Bool) (ops : List Op) :
    ∀ e ∈ (run fixedLaunch ops).subs,
      ((run fixedLaunch ops).ctx e.2.2).path = e.2.1 ∧
      (((run fixedLaunch ops).ctx e.2.2).state = .killed → ((run fixedLaunch ops).ctx e.2.2).zombie = true) := by
  intro e he
  have := (M10_tables_invariant fixedLaunch ops).subs e he
  exact ⟨this.2.1, this.2.2.zombie_of_killed⟩

theorem C20_jobs_die_with_their_actor (fixedLaunch : Bool) (ops : List Op) :
    ∀ e ∈ (run fixedLaunch ops).jobTable,
      ((run fixedLaunch ops).ctx e.2).state = .killed → ((run fixedLaunch ops).ctx e.2).zombie = true := by
  intro e he
  exact ((M10_tables_invariant fixedLaunch ops).jobs e he).2.2.zombie_of_killed

theorem C20_queued_job_is_recorded (fixedLaunch : Bool) (ops : List Op) :
    ∀ e ∈ (run fixedLaunch ops).jobTable,
      ∃ ref, (ref, e.1) ∈ ((run fixedLaunch ops).ctx e.2).jobs ∧
        e.1 = jobKey ((run fixedLaunch ops).ctx e.2).path ref := by
  intro e he
  obtain ⟨p, hp, hpe⟩ := ((M10_tables_invariant fixedLaunch ops).jobs e he).2.1
  refine ⟨p.1, ?_, ?_⟩
  · rw [← hpe]; exact hp
  · rw [← hpe]; exact (M10_tables_invariant fixedLaunch ops).keyed e.2 p hp

/-- Non-vacuity: an actor that subscribes and schedules in its OnLaunch and is then stopped
leaves neither a subscription nor a queued job behind. -/
example :
    let mid := run true [.setScript 1 [(0, [.sub 7, .sched 1 "tick" 3])], .spawn "a" 1 0 0 [], .deliver 1]
    let fin := run true [.setScript 1 [(0, [.sub 7, .sched 1 "tick" 3])], .spawn "a" 1 0 0 [], .deliver 1,
                         .kill (.own 1) false, .deliver 1]
    mid.subs = [(7, "/a", 1)] ∧ mid.jobTable = [("/a#tick", 1)] ∧ fin.subs = [] ∧ fin.jobTable = [] := by decide

end Vivid.ActorSys
