import Vivid.Proofs.ActorSys

/-!
# C03 — no user message is silently lost (handler-level theorems about M10)

Proved here: the three places where the runtime decides the fate of a user envelope that it
cannot hand to a behaviour — unknown local path at send time, target not running at handling
time, dead letter after the system has stopped.  The statements over every execution (every user
message id is held, processed, zombie-consumed or dropped after the stop, and in exactly one of
these places) are `C03_never_lost` in `Props/C03Global.lean` and `C03_exact_account` in
`Props/C03Exact.lean`.
-/
namespace Vivid.ActorSys

/-- A message for an unknown local path (fresh ref, nobody registered) is turned into a dead
letter for the root — it is not handed to the root actor as if it were addressed to it. -/
theorem C03_unknown_path_dead_letters (s : Sys) (sender : Option Cid) (p : Path) (k : Nat)
    (hp : p ≠ "/") (hr : s.registry.lookup p = none) :
    tell s false sender (.path p) (.user k) =
      enqueue { s with nextEnv := s.nextEnv + 1 } 0
        { id := 0, sys := false, sender := some 0, msg := .deadLetter s.nextEnv true 0 } := by
  simp [tell, resolve, hp, hr, deadLetter]

/-- A user envelope handled by a context that is not running (stopping, stopped, terminated) and
is not a zombie becomes a dead letter; the behaviour is not run. -/
theorem C03_not_running_dead_letters (s : Sys) (c : Cid) (e : Env) (k : Nat)
    (hm : e.msg = .user k) (hs : e.sys = false) (hst : (s.ctx c).state ≠ .running) (hz : (s.ctx c).zombie = false) :
    handle s c e = deadLetter s e := by
  rw [handle_undeliverable s c e (undeliverable_iff.2 ⟨hz, .inr ⟨hs, hst⟩⟩), hm]

/-- After the actor system has stopped (root terminated), an undeliverable dead letter is
dropped: handling it changes nothing — no further work. -/
theorem C03_after_stop_dropped (s : Sys) (e : Env) (x : Nat) (u : Bool) (d : Nat)
    (hm : e.msg = .deadLetter x u d) (hst : (s.ctx 0).state = .killed) (hz : (s.ctx 0).zombie = false) :
    handle s 0 e = s := by
  rw [handle_undeliverable s 0 e (undeliverable_iff.2 ⟨hz, .inl hst⟩), hm]

/-- Non-vacuity: in the initial system a message to `/nobody` is dead-lettered. -/
example : ((tell (init true) false (some 0) (.path "/nobody") (.user 1)).ctx 0).userQ.length = 1 := by decide

end Vivid.ActorSys
