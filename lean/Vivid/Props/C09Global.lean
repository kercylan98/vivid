import Vivid.Proofs.ActorSysPause

/-!
# C09 / C03 — a terminated actor's mailbox is never left paused, over every execution

`C09_terminated_not_paused`: in every reachable state, an actor that is terminated, is not a
zombie and has no restart in progress does not have a paused mailbox — whatever failures,
supervision decisions (Pause commands from one-for-all strategies, escalations) and kills
preceded.  So user mail that still reaches it (through an old reference) is processed by the
mailbox, i.e. dead-lettered (`C03_not_running_dead_letters`), never held forever.
-/
namespace Vivid.ActorSys

theorem C09_terminated_not_paused (fixedLaunch : Bool) (ops : List Op) (c : Cid)
    (hk : ((run fixedLaunch ops).ctx c).state = .killed) (hz : ((run fixedLaunch ops).ctx c).zombie = false)
    (hr : ((run fixedLaunch ops).ctx c).restarting = none) : ((run fixedLaunch ops).ctx c).paused = false := by
  rcases pinv_handlerInv.run fixedLaunch (pinv_init fixedLaunch) ops c with h | h
  · rw [h.zombie_of_killed hk] at hz; cases hz
  · exact h

/-- Non-vacuity: a child fails (its mailbox is paused), the default strategy stops it: once
terminated it is not paused. -/
example :
    let s := run true [.setScript 1 [(100, [.panic])], .spawn "a" 1 0 0 [], .deliver 1, .tell (.own 1) 0, .deliver 1]
    let t := run true [.setScript 1 [(100, [.panic])], .spawn "a" 1 0 0 [], .deliver 1, .tell (.own 1) 0, .deliver 1,
                       .deliver 0, .deliver 1, .deliver 1]
    (s.ctx 1).paused = true ∧ (t.ctx 1).state = .killed ∧ (t.ctx 1).paused = false := by decide

end Vivid.ActorSys
