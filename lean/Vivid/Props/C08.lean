import Vivid.Proofs.ActorSysFrame

/-!
# C08 — supervision applies exactly the decided directive to exactly its targets
(handler-level theorems about M10)

Proved: who is consulted and who is targeted — one-for-one targets the failing child only,
one-for-all the supervisor's current children, no strategy configured = system default Stop of the
failing child; a failure while the actor is already stopping (own OnKill / own OnKilled / a
child's OnKilled while not running) does not trigger supervision; `failed` pauses only the failing
actor and informs only its parent.  The frame statement "no other actor is touched", for every
state and escalation chain of any depth, is `C08_supervise_touches_only_targets`
(`Props/C08Frame.lean`).
-/
namespace Vivid.ActorSys

/-- One-for-one (and the system default) targets exactly the failing child; one-for-all exactly
the supervisor's children at decision time.  `targetsOf` is the target computation of
`onSuperviseDecide` (`onSuperviseDecide_eq`). -/
theorem C08_targets (s : Sys) (sup failed : Cid) :
    ((s.ctx sup).strat = 1 → targetsOf s sup failed = [failed]) ∧
    ((s.ctx sup).strat = 0 → targetsOf s sup failed = [failed]) ∧
    ((s.ctx sup).strat = 2 → targetsOf s sup failed = (s.ctx sup).children) :=
  ⟨fun h => if_pos (.inr h), fun h => if_pos (.inl h), fun h => if_neg (by rw [h]; decide)⟩

/-- `failed`: only the failing actor is paused; lifecycle state of everybody is untouched; of the system queues only
the parent's changes, by the supervision request at its end (the user queues are not spoken of). -/
theorem C08_failed_frame (s : Sys) (c p : Cid) (hp : (s.ctx c).parent = some p) (hne : p ≠ c) :
    ((failed s c).ctx c).paused = true ∧
    (∀ d, d ≠ c → ((failed s c).ctx d).paused = (s.ctx d).paused) ∧
    (∀ d, ((failed s c).ctx d).state = (s.ctx d).state) ∧
    (∀ d, d ≠ p → ((failed s c).ctx d).sysQ = (s.ctx d).sysQ) ∧
    ((failed s c).ctx p).sysQ = (s.ctx p).sysQ ++ [{ id := 0, sys := true, sender := some c, msg := .supervise [(c, [])] [] }] := by
  -- two updates at different contexts, the pause at `c` and the report in the system queue of `p`; in each clause an
  -- update is either at another context (`upd_ctx_other`) or leaves the field alone (`agree_upd`)
  have h : (failed s c).ctx = (upd (upd s c fun x => { x with paused := true }) p
      (push { id := 0, sys := true, sender := some c, msg := .supervise [(c, [])] [] })).ctx := by
    simp only [failed, hp]; rfl
  rw [h]
  refine ⟨?_, fun d hd => ?_, fun d => ?_, fun d hd => ?_, ?_⟩
  · rw [upd_ctx_other hne.symm, upd_ctx_self]
  · rw [(agree_upd (π := Ctx.paused) _ p _).2 d, upd_ctx_other hd]
  · rw [(agree_upd (π := Ctx.state) _ p _).2 d, (agree_upd (π := Ctx.state) s c _).2 d]
  · rw [upd_ctx_other hd, (agree_upd (π := Ctx.sysQ) s c _).2 d]
  · rw [upd_ctx_self, upd_ctx_other hne]; rfl

/-- A panic while handling the actor's own OnKill never triggers supervision. -/
theorem C08_no_supervision_on_kill (s : Sys) (c : Cid) (beh : Nat) (e : Env) (poison : Bool) :
    execRecover s c beh e (.onKill poison) = (behave s c beh e (.onKill poison)).s := by
  simp only [execRecover]; split <;> rfl

/-- A panic while handling OnKilled does not trigger supervision when the message names the actor
itself, or when the actor is no longer running. -/
theorem C08_no_supervision_while_stopping (s : Sys) (c : Cid) (beh : Nat) (e : Env) (w : Cid)
    (h : w = c ∨ ((behave s c beh e (.onKilled w)).s.ctx c).state ≠ .running) :
    execRecover s c beh e (.onKilled w) = (behave s c beh e (.onKilled w)).s := by
  unfold execRecover
  dsimp only
  split
  · exact if_pos h.symm
  · rfl

end Vivid.ActorSys
