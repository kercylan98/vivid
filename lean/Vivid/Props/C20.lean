import Vivid.Proofs.ActorSys

/-!
# C20 — scheduled messages die with their actor; references are per actor
(registry-level theorems about M10)

Proved: the job key is injective in (path, reference) for paths without `#` (the path alphabet
of `internal/utils/ref.go` has no `#`; the tie runs actor names and references containing `:`);
Clear leaves the actor with no recorded reference and removes exactly its keys from the shared
queue (termination and restart run the same `clearJobs`; over every execution see
`C20_jobs_die_with_their_actor`, `Props/C19C20Global.lean`).  Firing times against
the wall clock (exactly once, not before the delay, once per interval) are go-quartz behaviour:
observed by the real-time monitor of the `schedrt` engine, named in the trusted base, not proved.
-/
namespace Vivid.ActorSys

/-- A list is split uniquely at the first occurrence of a separator: it stands at the length of what precedes it. -/
theorem split_at_sep {α : Type} [DecidableEq α] {x : α} {a b r1 r2 : List α} (ha : x ∉ a) (hb : x ∉ b)
    (h : a ++ x :: r1 = b ++ x :: r2) : a = b ∧ r1 = r2 := by
  have hl := congrArg (List.idxOf x) h
  simp only [List.idxOf_append, if_neg ha, if_neg hb, List.idxOf_cons_self, Nat.zero_add] at hl
  obtain ⟨h1, h2⟩ := List.append_inj h hl
  exact ⟨h1, (List.cons.inj h2).2⟩

/-- Distinct (actor path, reference) pairs never share a job key (paths without `#`). -/
theorem C20_key_injective (p p' : Path) (r r' : String) (hp : '#' ∉ p.toList) (hp' : '#' ∉ p'.toList)
    (h : jobKey p r = jobKey p' r') : p = p' ∧ r = r' := by
  unfold jobKey at h
  have hl := congrArg String.toList h
  simp only [String.toList_append] at hl
  have hs : ("#" : String).toList = ['#'] := rfl
  rw [hs, List.append_assoc, List.append_assoc] at hl
  have ⟨h1, h2⟩ := split_at_sep hp hp' hl
  exact ⟨String.ext h1, String.ext h2⟩

/-- `Clear` (also run on termination and on restart): the actor records no reference afterwards
and none of its keys is left in the shared queue; other actors' jobs are untouched. -/
theorem C20_clear (s : Sys) (c : Cid) :
    ((clearJobs s c).ctx c).jobs = [] ∧
    (∀ k, k ∈ ((s.ctx c).jobs.map (·.2)) → ∀ e ∈ (clearJobs s c).jobTable, e.1 ≠ k) ∧
    (∀ e ∈ s.jobTable, e.1 ∉ ((s.ctx c).jobs.map (·.2)) → e ∈ (clearJobs s c).jobTable) := by
  refine ⟨by rw [clearJobs, upd_ctx_self], fun k hk e he heq => ?_, fun e he hn => List.mem_filter.2 ⟨he, ?_⟩⟩
  · have := (List.mem_filter.1 he).2
    rw [heq, List.contains_iff_mem.2 hk] at this
    cases this
  · rw [Bool.not_eq_true', ← Bool.not_eq_true, List.contains_iff_mem]
    exact hn

/-- Scheduling under a reference the actor already uses records the key again but leaves the
queue as it is (go-quartz rejects the duplicate key and the error is discarded). -/
theorem C20_reschedule_keeps_one (s : Sys) (c : Cid) (ref : String)
    (h : s.jobTable.any (fun e => e.1 = jobKey (s.ctx c).path ref) = true) :
    (schedule s c ref).jobTable = s.jobTable := by
  unfold schedule
  simp only [upd]
  rw [if_pos h]

end Vivid.ActorSys
