import Vivid.Props.C14

/-!
# C14 — end to end over a sequence of connections

A link's life is a sequence of connections. On each one the sender wrote whole frames for some
payloads and the connection was cut after `k` bytes of that stream: inside a length prefix, inside
a body, between frames, or never (`k` ≥ the stream length).  What the remote actor receives is the
concatenation of what each connection's receiver delivered.  `C14_link_subsequence`: that is a
subsequence of the concatenation of what was written — never a corrupted, duplicated, reordered or
invented payload.  Together with `C14_partition` (what is written is, in order, exactly the messages
not dead-lettered) this is the property's "what it receives is a subsequence of what was sent".
-/
namespace Vivid.Framing
open Vivid.Codec

abbrev Conn := List Bytes × Nat

def received (cs : List Conn) : List Bytes :=
  (cs.map fun c => delivered (rx (c.1.length + 1) ((encodeAll c.1).take c.2))).flatten

def written (cs : List Conn) : List Bytes := (cs.map (·.1)).flatten

theorem C14_link_subsequence (cs : List Conn)
    (hp : ∀ c ∈ cs, ∀ p ∈ c.1, 0 < p.length ∧ p.length ≤ limit) :
    (received cs).Sublist (written cs) := by
  induction cs with
  | nil => exact .slnil
  | cons c t ih =>
    obtain ⟨hc, ht⟩ := List.forall_mem_cons.1 hp
    obtain ⟨m, _, hd⟩ := C14_cut_prefix c.1 hc c.2 (c.1.length + 1) (Nat.lt_succ_self _)
    have h : (delivered (rx (c.1.length + 1) ((encodeAll c.1).take c.2))).Sublist c.1 :=
      hd ▸ List.take_sublist m c.1
    exact h.append (ih ht)

/-- Non-vacuity: two connections, the first cut inside its second frame, the second complete. -/
example : received [([[1], [2, 3]], 7), ([[4]], 100)] = [[1], [4]] := by decide

end Vivid.Framing
