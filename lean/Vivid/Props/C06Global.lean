import Vivid.Proofs.ActorSysReg

/-!
# C06 — the registry, over every execution

`Op` (`Proofs/ActorSysRule.lean`) are the steps of the lock-step protocol (one handler execution of one actor, or
one operation from outside the actor system); `run` folds them from the initial system.  The
handlers run *arbitrary scripts* (every rule table, every action list), so the statements
quantify over all user code the script language expresses, all trees and all schedules.

* `C06_registry_invariant`: in every reachable state the registry has one entry per path, each
  entry points to an existing context that carries that path, and no entry points to a
  terminated actor (other than a zombie, which keeps its name by design).
* `C06_terminated_is_released`: a terminated, non-zombie actor is not registered — its path is
  free for `FindActor` and for re-use — in every reachable state.
* `C06_lookup_alive`: whatever `FindActor` resolves is not terminated (or is a zombie).
* `C06_paths_unique`: two registered contexts never share a path, and an entry's context carries the entry's path.
-/
namespace Vivid.ActorSys

theorem C06_registry_invariant (fixedLaunch : Bool) (ops : List Op) : RegInv none (run fixedLaunch ops) :=
  regInv_handlerInv.run fixedLaunch (regInv_init fixedLaunch) ops

theorem C06_lookup_alive (fixedLaunch : Bool) (ops : List Op) (p : Path) (c : Cid)
    (h : (run fixedLaunch ops).registry.lookup p = some c)
    (hk : ((run fixedLaunch ops).ctx c).state = .killed) : ((run fixedLaunch ops).ctx c).zombie = true :=
  (C06_registry_invariant fixedLaunch ops).2.2 (p, c) (List.mem_of_lookup_eq_some h) (Option.some_ne_none _) hk

theorem C06_terminated_is_released (fixedLaunch : Bool) (ops : List Op) (c : Cid)
    (hk : ((run fixedLaunch ops).ctx c).state = .killed) (hz : ((run fixedLaunch ops).ctx c).zombie = false) :
    ∀ e ∈ (run fixedLaunch ops).registry, e.2 ≠ c := by
  intro e he hc
  have := (C06_registry_invariant fixedLaunch ops).2.2 e he (Option.some_ne_none _) (by rw [hc]; exact hk)
  rw [hc, hz] at this; cases this

theorem C06_paths_unique (fixedLaunch : Bool) (ops : List Op) :
    ((run fixedLaunch ops).registry.map (·.1)).Nodup ∧
    ∀ e ∈ (run fixedLaunch ops).registry, ((run fixedLaunch ops).ctx e.2).path = e.1 :=
  ⟨(C06_registry_invariant fixedLaunch ops).1, fun e he => ((C06_registry_invariant fixedLaunch ops).2.1 e he).2⟩

/-- Non-vacuity: spawn `/a`, kill it, let it and the root handle their mail: `/a` is released. -/
example :
    let s := run true [.spawn "a" 0 0 0 [], .deliver 1, .kill (.own 1) false, .deliver 1, .deliver 0]
    s.registry = [] ∧ (s.ctx 1).state = .killed := by decide

end Vivid.ActorSys
