import Vivid.Proofs.ActorSys

/-!
# C09 — nobody stays paused; zombies are inert (handler-level theorems about M10)

Proved: every way a supervised failure ends leaves the mailbox of a surviving actor unpaused —
restart completion, zombie transition and termination all unpause; a zombie runs no user code
whatever it receives, keeps no message, and sends nothing while consuming user mail.  The global
statement (at quiescence no live actor is paused, for every decision / strategy / chain) is
checked by the STAYS-PAUSED / HALF-STOPPED / NO-ANSWER monitors over the full matrix and not
proved (it would need an "every Pause has a Resume in flight" invariant).  Over every execution:
a terminated actor is not paused (`Props/C09Global.lean`).
-/
namespace Vivid.ActorSys

/-- A zombie runs no user code: the behaviour invocation is a no-op for every message. -/
theorem C09_zombie_runs_nothing (s : Sys) (c : Cid) (beh : Nat) (e : Env) (m : Msg)
    (hz : (s.ctx c).zombie = true) : behave s c beh e m = { s := s, panicked := false } := by
  unfold behave; exact if_pos hz

/-- A zombie consumes a user message silently: handling it changes nothing at all (no dead
letter, no reply, no state change) — it keeps draining without blocking anyone. -/
theorem C09_zombie_consumes_user_mail (s : Sys) (c : Cid) (e : Env) (k : Nat)
    (hz : (s.ctx c).zombie = true) (hm : e.msg = .user k) : handle s c e = s := by
  unfold handle
  simp only [hz, Bool.not_true, Bool.false_eq_true, and_false, if_false, hm, execRecover,
    C09_zombie_runs_nothing s c _ e (.user k) hz]

/-- Termination unpauses (so queued mail drains into dead letters). -/
theorem C09_cleanup_unpauses (s : Sys) (c : Cid) : ((cleanup s c).ctx c).paused = false := by
  unfold cleanup; simp

/-- The zombie transition (a restart hook fails) unpauses. -/
theorem C09_zombie_transition_unpauses (s : Sys) (c : Cid)
    (h : (s.ctx c).hooks / 4 % 2 = 1 ∨ (s.ctx c).hooks / 2 % 2 = 1) : ((handleRestart s c).ctx c).paused = false := by
  rw [handleRestart_zombie s c h, say_ctx, upd_ctx_self]

/-- Restart completion (repaired variant): the new incarnation starts on an unpaused mailbox (its OnLaunch runs in
that state; only a failure of that very OnLaunch can pause it again, through supervision). -/
theorem C09_restart_unpauses (s : Sys) (c : Cid) (hf : s.fixedLaunch = true)
    (h : ¬ ((s.ctx c).hooks / 4 % 2 = 1 ∨ (s.ctx c).hooks / 2 % 2 = 1)) :
    ∃ s3, handleRestart s c = execRecover s3 c (s.ctx c).script { id := 0, sys := true, sender := some c, msg := .onLaunch } .onLaunch ∧
      (s3.ctx c).paused = false ∧ (s3.ctx c).state = .running := by
  refine ⟨_, handleRestart_relaunch s c hf h, ?_, ?_⟩ <;> rw [relaunchState_ctx_self]

/-- Resume (decision 5) sends a resume command to every target of every level of the
escalation chain, as a system message. -/
theorem C09_resume_reaches_chain (s : Sys) (sup : Cid) (f : Cid) (rest : List (Cid × List Cid))
    (hs : (s.ctx sup).strat = 1) (hd : (s.ctx sup).decisions = [5]) :
    onSuperviseDecide s sup ((f, []) :: rest) =
      tellAll (tellAll (say (upd s sup (fun x => { x with decIdx := x.decIdx + 1 })) s!"decide:{sup}:{f}:{5}")
        true (some sup) [f] .cmdPause) true (some sup) ([f] ++ (rest.map (·.2)).flatten) .cmdResume := by
  rw [onSuperviseDecide_one s sup f rest 5 hs hd]; rfl

/-- The strategy is applied (`onSuperviseDecide`, the subject of the theorems above and of `C08*`) when the
supervisor is running, and only then (next theorem). -/
theorem C08_running_supervisor_decides (s : Sys) (sup : Cid) (chain : List (Cid × List Cid))
    (h : (s.ctx sup).state = .running) : onSupervise s sup chain = onSuperviseDecide s sup chain := by
  unfold onSupervise; simp [h]

/-- A supervisor that is already stopping takes no decision: it ends the failing child with an immediate (system) kill —
which a paused mailbox still processes — so the child can neither stay paused for good nor keep its stopping parent
waiting (the kill it may have been handed before as a poison pill sits behind the pause). -/
theorem C09_stopping_supervisor_kills_failing_child (s : Sys) (sup f : Cid) (ts : List Cid)
    (rest : List (Cid × List Cid)) (h : (s.ctx sup).state ≠ .running) :
    onSupervise s sup ((f, ts) :: rest) = tell s true (some sup) (.own f) (.onKill false) := by
  unfold onSupervise; simp [h]

/-- A decision value outside the defined range is escalated (as documented on `SupervisionDecision`), it does not leave
the failing child paused without a directive: the supervisor's mailbox is paused and its own parent (if any) is handed
the failure, exactly as for Escalate. -/
theorem C09_unknown_decision_is_escalated (s : Sys) (sup f : Cid) (rest : List (Cid × List Cid)) (d : Nat)
    (hs : (s.ctx sup).strat = 1) (hdec : (s.ctx sup).decisions = [d])
    (h1 : d ≠ 1) (h2 : d ≠ 2) (h3 : d ≠ 3) (h4 : d ≠ 4) (h5 : d ≠ 5) :
    onSuperviseDecide s sup ((f, []) :: rest) =
      (let s2 := tellAll (say (upd s sup (fun x => { x with decIdx := x.decIdx + 1 })) s!"decide:{sup}:{f}:{d}")
          true (some sup) [f] .cmdPause
       let s3 := upd s2 sup (fun x => { x with paused := true })
       let t : Target := match (s.ctx sup).parent with | some p => .own p | none => .nobody
       tell s3 true (some sup) t (.supervise ((sup, []) :: (f, [f]) :: rest) [])) := by
  rw [onSuperviseDecide_one s sup f rest d hs hdec, directive, if_neg h1, if_neg h2, if_neg h3, if_neg h4, if_neg h5]; rfl

end Vivid.ActorSys
