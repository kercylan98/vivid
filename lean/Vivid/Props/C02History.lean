import Vivid.Props.C02Order

/-!
# C02 — order over whole histories of one mailbox

`Props/C02Order.lean` states the order clauses of C02 for *one* step.  Here they hold of every
history: any interleaving of enqueues (by any number of senders), pauses, resumes and processing
steps at one mailbox.  The histories are those of a small machine of its own: `Hist` is a mailbox
with its ghost history (everything ever enqueued, per class, in arrival order; everything processed,
in processing order), and `hstep` selects by `pick`.  `deliver_eq_pick` shows that the actor-system
model's `deliver` (the function the lock-step engines compare with the real mailbox + context, one
handler per op) selects by exactly this `pick`, so the history theorems speak about the policy the
tie exercises.  The stash has a machine of the same kind (`StashH`), tied to M10's `.unstash` by
`unstash_uses_stashCnt`.
-/
namespace Vivid.ActorSys

/-- The mailbox's selection policy: `(isSystem, envelope, rest of that queue)`. -/
def pick (sq uq : List Env) (paused : Bool) : Option (Bool × Env × List Env) :=
  match sq with
  | e :: rest => some (true, e, rest)
  | [] => if paused then none else
    match uq with
    | e :: rest => some (false, e, rest)
    | [] => none

theorem deliver_eq_pick (s : Sys) (c : Cid) :
    deliver s c =
      match pick (s.ctx c).sysQ (s.ctx c).userQ (s.ctx c).paused with
      | none => none
      | some (true, e, rest) => some (handle (upd s c (fun y => { y with sysQ := rest })) c e)
      | some (false, e, rest) => some (handle (upd s c (fun y => { y with userQ := rest })) c e) := by
  simp only [deliver, pick]
  generalize (s.ctx c).sysQ = sq, (s.ctx c).paused = p, (s.ctx c).userQ = uq
  cases sq <;> cases p <;> cases uq <;> rfl

theorem deliverable_iff_pick (x : Ctx) : deliverable x = (pick x.sysQ x.userQ x.paused).isSome := by
  unfold deliverable pick
  cases x.sysQ <;> cases x.paused <;> cases x.userQ <;> rfl

structure Hist where
  sq : List Env := []
  uq : List Env := []
  paused : Bool := false
  inS : List Env := []
  inU : List Env := []
  log : List (Env × Nat × Bool) := []     -- processed envelope, #system pending at the pick (itself excluded), paused at the pick

inductive HOp where
  | enq (e : Env)
  | pause
  | resume
  | proc
  deriving Repr

def hstep (h : Hist) : HOp → Hist
  | .enq e => if e.sys then { h with sq := h.sq ++ [e], inS := h.inS ++ [e] } else { h with uq := h.uq ++ [e], inU := h.inU ++ [e] }
  | .pause => { h with paused := true }
  | .resume => { h with paused := false }
  | .proc =>
    match pick h.sq h.uq h.paused with
    | none => h
    | some (true, e, rest) => { h with sq := rest, log := h.log ++ [(e, rest.length, h.paused)] }
    | some (false, e, rest) => { h with uq := rest, log := h.log ++ [(e, h.sq.length, h.paused)] }

def hrun (ops : List HOp) (h : Hist) : Hist := ops.foldl hstep h

def logU (h : Hist) : List Env := (h.log.map (·.1)).filter (fun e => !e.sys)
def logS (h : Hist) : List Env := (h.log.map (·.1)).filter (fun e => e.sys)

structure HInv (h : Hist) : Prop where
  sysClass : ∀ e ∈ h.inS, e.sys = true
  userClass : ∀ e ∈ h.inU, e.sys = false
  userFifo : logU h ++ h.uq = h.inU
  sysFifo : logS h ++ h.sq = h.inS
  userQuiet : ∀ x ∈ h.log, x.1.sys = false → x.2.1 = 0 ∧ x.2.2 = false

theorem hinv_init : HInv {} :=
  ⟨List.forall_mem_nil _, List.forall_mem_nil _, rfl, rfl, List.forall_mem_nil _⟩

theorem pick_sys {sq uq : List Env} {p : Bool} {e : Env} {rest : List Env}
    (h : pick sq uq p = some (true, e, rest)) : sq = e :: rest := by
  cases sq <;> cases p <;> cases uq <;> cases h <;> rfl

theorem pick_user {sq uq : List Env} {p : Bool} {e : Env} {rest : List Env}
    (h : pick sq uq p = some (false, e, rest)) : sq = [] ∧ p = false ∧ uq = e :: rest := by
  cases sq <;> cases p <;> cases uq <;> cases h <;> exact ⟨rfl, rfl, rfl⟩

theorem hinv_step (h : Hist) (o : HOp) (inv : HInv h) : HInv (hstep h o) := by
  cases o with
  | pause | resume => exact { inv with }
  | enq e =>
    by_cases hes : e.sys = true
    · rw [hstep, if_pos hes]
      exact { inv with
        sysClass := forall_mem_snoc inv.sysClass hes
        sysFifo := (List.append_assoc ..).symm.trans (congrArg (· ++ [e]) inv.sysFifo) }
    · rw [hstep, if_neg hes]
      exact { inv with
        userClass := forall_mem_snoc inv.userClass (Bool.eq_false_iff.2 hes)
        userFifo := (List.append_assoc ..).symm.trans (congrArg (· ++ [e]) inv.userFifo) }
  | proc =>
    -- the head `e` of the picked queue moves to the log; its class, known from its arrival, says
    -- which of `logU`, `logS` sees it
    simp only [hstep]
    split
    · exact inv
    · next _ e rest hp =>
      have hq := pick_sys hp
      have hes : e.sys = true :=
        inv.sysClass e (inv.sysFifo ▸ List.mem_append_right _ (hq ▸ List.mem_cons_self))
      exact { inv with
        userFifo := by simpa [logU, hes] using inv.userFifo
        sysFifo := by simpa [logS, hes, hq] using inv.sysFifo
        userQuiet := forall_mem_snoc inv.userQuiet fun hf => Bool.noConfusion (hes.symm.trans hf) }
    · next _ e rest hp =>
      obtain ⟨hsq, hpa, hq⟩ := pick_user hp
      have hes : e.sys = false :=
        inv.userClass e (inv.userFifo ▸ List.mem_append_right _ (hq ▸ List.mem_cons_self))
      exact { inv with
        userFifo := by simpa [logU, hes, hq] using inv.userFifo
        sysFifo := by simpa [logS, hes] using inv.sysFifo
        userQuiet := forall_mem_snoc inv.userQuiet fun _ => ⟨congrArg List.length hsq, hpa⟩ }

theorem hinv_run (ops : List HOp) {h : Hist} (inv : HInv h) : HInv (hrun ops h) :=
  List.foldlRecOn ops hstep inv fun h inv o _ => hinv_step h o inv

/-- **User FIFO over every history**: processed user messages, then the queued ones, are the
arrival sequence - for every number of senders, queue length and pause/resume pattern. -/
theorem C02_hist_user_fifo (ops : List HOp) : logU (hrun ops {}) ++ (hrun ops {}).uq = (hrun ops {}).inU :=
  (hinv_run ops hinv_init).userFifo

/-- **System FIFO over every history.** -/
theorem C02_hist_sys_fifo (ops : List HOp) : logS (hrun ops {}) ++ (hrun ops {}).sq = (hrun ops {}).inS :=
  (hinv_run ops hinv_init).sysFifo

/-- **Per-sender order**: for any sender (any predicate `p` on envelopes), what was processed of
that sender's user messages is a prefix of what that sender enqueued, in its sending order. -/
theorem C02_hist_per_sender_prefix (ops : List HOp) (p : Env → Bool) :
    (logU (hrun ops {})).filter p <+: ((hrun ops {}).inU).filter p :=
  (C02_hist_user_fifo ops ▸ List.prefix_append ..).filter p

/-- **A poison kill waits for earlier user mail**, read through positions: the log of processed
user messages and the arrival sequence agree at every position of the log, here at two positions
`i < j`.  So the user message that arrived `j`-th (a poison kill is one), once processed, was
processed `j`-th, after the one that arrived `i`-th.  The statement does not single out kills, and
each conjunct holds for its index alone (`hij` only bounds `i`). -/
theorem C02_hist_poison_after_earlier (ops : List HOp) (i j : Nat) (hij : i < j)
    (hj : j < (logU (hrun ops {})).length) :
    (logU (hrun ops {}))[i]? = ((hrun ops {}).inU)[i]? ∧ (logU (hrun ops {}))[j]? = ((hrun ops {}).inU)[j]? := by
  rw [← C02_hist_user_fifo ops]
  exact ⟨(List.getElem?_append_left (Nat.lt_trans hij hj)).symm, (List.getElem?_append_left hj).symm⟩

/-- **System before user, over every history**: each user message in the log was picked when no
system message was pending (so an immediate kill, a system message, overtakes all queued user
mail) and the mailbox was not paused. -/
theorem C02_hist_user_only_when_no_system_pending (ops : List HOp) :
    ∀ x ∈ (hrun ops {}).log, x.1.sys = false → x.2.1 = 0 ∧ x.2.2 = false :=
  (hinv_run ops hinv_init).userQuiet

/-- Nothing is picked from a paused mailbox that holds no system message. -/
theorem C02_hist_paused_holds (h : Hist) (hs : h.sq = []) (hp : h.paused = true) : hstep h .proc = h := by
  simp only [hstep, hs, hp]; rfl

-- non-vacuity: a history with two senders, a pause, an immediate kill overtaking user mail
private def eU (i : Nat) (snd : Nat) : Env := { id := i, sys := false, sender := some snd, msg := .user 0 }
private def eS (i : Nat) : Env := { id := i, sys := true, sender := none, msg := .onKill false }

example :
    ((hrun [.enq (eU 1 7), .enq (eU 2 8), .enq (eU 3 7), .proc, .enq (eS 4), .pause, .proc, .proc, .resume, .proc, .proc] {}).log.map
      (fun x => (x.1.id, x.2.1, x.2.2))) = [(1, 0, false), (4, 0, true), (2, 0, false), (3, 0, false)] := by
  decide

/-! ## The stash over every history

`stashCnt` is the count rule of M10's `.unstash n` (and of `Context.Unstash`): the no-argument
fast path (`n = 0`) returns one message, `Unstash(n)`, `n ≥ 1`, returns `min n (stash length)`.  The stash
history records every envelope ever stashed (`stLog`) and every envelope ever returned to the
mailbox (`unLog`), both in event order. -/

def stashCnt (n len : Nat) : Nat := if n = 0 then min 1 len else min n len

/-- The count M10 uses in `.unstash n` is `stashCnt` (tie to the model the lock-step compares): so
many envelopes leave the stash, and by `unstash_ctx` they are the ones that go back to the queues. -/
theorem unstash_uses_stashCnt (s : Sys) (self : Cid) (cur : Env) (n : Nat) :
    ((runActions s self cur [.unstash n]).s.ctx self).stash =
      (s.ctx self).stash.drop (stashCnt n (s.ctx self).stash.length) :=
  congrArg Ctx.stash (unstash_ctx s self cur n)

structure StashH where
  stash : List Env := []
  stLog : List Env := []
  unLog : List Env := []

inductive SOp where
  | stash (e : Env)
  | unstash (n : Nat)

def sstep (h : StashH) : SOp → StashH
  | .stash e => { h with stash := h.stash ++ [e], stLog := h.stLog ++ [e] }
  | .unstash n =>
    let k := stashCnt n h.stash.length
    { h with stash := h.stash.drop k, unLog := h.unLog ++ h.stash.take k }

def srun (ops : List SOp) (h : StashH) : StashH := ops.foldl sstep h

theorem sinv_step (h : StashH) (o : SOp) (inv : h.unLog ++ h.stash = h.stLog) :
    (sstep h o).unLog ++ (sstep h o).stash = (sstep h o).stLog := by
  cases o with
  | stash e =>
    show h.unLog ++ (h.stash ++ [e]) = h.stLog ++ [e]
    rw [← List.append_assoc, inv]
  | unstash n =>
    show (h.unLog ++ h.stash.take (stashCnt n h.stash.length)) ++ h.stash.drop (stashCnt n h.stash.length) = h.stLog
    rw [List.append_assoc, List.take_append_drop, inv]

/-- **Stash order over every history**: whatever the sequence of `Stash` and `Unstash(n)` calls,
the messages returned so far followed by the messages still stashed are exactly the messages
stashed, in the order they were stashed - each comes back once, none overtakes another. -/
theorem C02_hist_stash_fifo (ops : List SOp) :
    (srun ops {}).unLog ++ (srun ops {}).stash = (srun ops {}).stLog :=
  List.foldlRecOn (motive := fun h => h.unLog ++ h.stash = h.stLog) ops sstep rfl
    fun h inv o _ => sinv_step h o inv

/-- What has come back is a prefix of what was stashed. -/
theorem C02_hist_unstashed_prefix (ops : List SOp) : (srun ops {}).unLog <+: (srun ops {}).stLog := by
  rw [← C02_hist_stash_fifo ops]; exact List.prefix_append _ _

theorem stashCnt_le (n len : Nat) : stashCnt n len ≤ len := by
  unfold stashCnt; split <;> exact Nat.min_le_right ..

theorem stashCnt_pos (n : Nat) {len : Nat} (h : 0 < len) : 0 < stashCnt n len := by
  unfold stashCnt; split
  · exact Nat.lt_min.2 ⟨Nat.one_pos, h⟩
  · next hn => exact Nat.lt_min.2 ⟨Nat.pos_of_ne_zero hn, h⟩

/-- `Unstash(n)` returns `stashCnt n len` messages: never more than are stashed, at least one if any is. -/
theorem C02_hist_unstash_count (h : StashH) (n : Nat) :
    (sstep h (.unstash n)).unLog.length = h.unLog.length + stashCnt n h.stash.length ∧
    stashCnt n h.stash.length ≤ h.stash.length ∧ (0 < h.stash.length → 0 < stashCnt n h.stash.length) := by
  refine ⟨?_, stashCnt_le .., stashCnt_pos n⟩
  show (h.unLog ++ h.stash.take _).length = _
  rw [List.length_append, List.length_take, Nat.min_eq_left (stashCnt_le ..)]

example :
    ((srun [.stash (eU 1 7), .stash (eU 2 7), .stash (eU 3 8), .unstash 0, .stash (eU 4 7), .unstash 5, .unstash 2] {}).unLog.map (·.id)) = [1, 2, 3, 4] := by
  decide

end Vivid.ActorSys
