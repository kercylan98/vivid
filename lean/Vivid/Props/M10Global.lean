import Vivid.Proofs.ActorSysStruct

/-!
# M10 — structural invariants over every execution (C05, C06)

Same executions as in `C06Global` (`run`: any list of handler steps and outside operations,
handlers running arbitrary scripts).

* `C06_terminated_has_no_children`: an actor is marked terminated only after its last child
  entry is gone, and a terminated actor never gains a child (ActorOf on it fails): children
  first, in every reachable state.
* `C05_restart_flag_only_while_stopping`: the restart-in-progress flag is never set on a running
  actor: a restart always passes through the stopping phase of the old incarnation and is over
  (flag cleared) when the new incarnation runs.
-/
namespace Vivid.ActorSys

theorem M10_struct_invariant (fixedLaunch : Bool) (ops : List Op) : StructInv (run fixedLaunch ops) :=
  structInv_handlerInv.run fixedLaunch (structInv_init fixedLaunch) ops

theorem C06_terminated_has_no_children (fixedLaunch : Bool) (ops : List Op) (c : Cid)
    (hk : ((run fixedLaunch ops).ctx c).state = .killed) : ((run fixedLaunch ops).ctx c).children = [] :=
  (M10_struct_invariant fixedLaunch ops).1 c hk

theorem C05_restart_flag_only_while_stopping (fixedLaunch : Bool) (ops : List Op) (c : Cid)
    (hr : ((run fixedLaunch ops).ctx c).restarting.isSome = true) : ((run fixedLaunch ops).ctx c).state ≠ .running :=
  (M10_struct_invariant fixedLaunch ops).2 c hr

/-- Non-vacuity: a parent with a child is asked to stop; while the child is still there it is only
`killing`. -/
example :
    let mid := run true [.spawn "p" 1 0 0 [], .setScript 1 [(0, [.spawn "c" 0 0 [] 0])], .deliver 1, .deliver 2,
                         .kill (.own 1) false, .deliver 1]
    (mid.ctx 1).state = .killing ∧ (mid.ctx 1).children = [2] := by decide

end Vivid.ActorSys
