import Vivid.Proofs.ActorSysFrame

/-!
# C06 — kill terminates the subtree, children first, once each (handler-level theorems about M10)

Proved: `cleanup` (the only place that reports an actor terminated) releases the path; the kill
chain reaches it only with an empty children set; a child's death notice removes only that very
child (repaired); a second kill of a stopping actor is ignored.  Over every execution: the
registry invariant (`Props/C06Global.lean`) and children first (`Props/M10Global.lean`).  That all
descendants are terminated before the report, and termination at quiescence, are checked by the
lock-step and the KILL-ONCE / CHILDREN-FIRST / NOT-RELEASED / HALF-STOPPED monitors, not proved.
-/
namespace Vivid.ActorSys

theorem lookup_filter_ne {α : Type} (l : List (String × α)) (p : String) :
    (l.filter (fun e => e.1 ≠ p)).lookup p = none :=
  List.lookup_eq_none_iff.2 fun _ he => bne_iff_ne.2 (Ne.symm (of_decide_eq_true (List.mem_filter.1 he).2))

/-- Once reported terminated, the path is released: `FindActor` fails and the name can be reused. -/
theorem C06_cleanup_releases (s : Sys) (c : Cid) :
    (cleanup s c).registry.lookup (s.ctx c).path = none := by
  obtain ⟨s1, hf, h⟩ := cleanup_shape s c
  rw [h, upd_registry, hf.registry]
  exact lookup_filter_ne _ _

/-- The kill chain reports termination (`killed-event`, i.e. `cleanup`) only when no child is
left: if children remain, `onKilled` for the actor itself (not a zombie) changes nothing. -/
theorem C06_not_before_children (s : Sys) (c : Cid) (beh : Nat) (e : Env)
    (hz : (s.ctx c).zombie = false) (hch : (s.ctx c).children ≠ []) :
    onKilled s c beh e c = s := by
  unfold onKilled
  simp [hz, hch]

/-- A repeated kill of an actor that is already stopping runs nothing again: no behaviour, no notification, no
message; its only effect is to cancel a restart that is waiting for the children to end (the stop wins, see
`C06_kill_wins_over_restart`). -/
theorem C06_kill_once (s : Sys) (c : Cid) (e : Env) (poison : Bool)
    (hm : e.msg = .onKill poison) (hs : e.sys = true) (hz : (s.ctx c).zombie = false)
    (hst : (s.ctx c).state = .killing) :
    handle s c e = upd s c (fun x => { x with restarting := none }) := by
  unfold handle
  simp [hs, hz, hst, hm]

/-- A restart directive that reaches an actor which is already stopping (killed by its parent or anybody else
between its failure and the supervisor's decision) is ignored: a stopping actor is never brought back (the directive only
undoes the pause that came with it, so that the mail parked behind it drains into dead letters). -/
theorem C06_restart_ignored_while_stopping (s : Sys) (c : Cid) (e : Env) (poison : Bool)
    (hm : e.msg = .restart poison) (hs : e.sys = true) (hz : (s.ctx c).zombie = false)
    (hst : (s.ctx c).state = .killing) :
    handle s c e = upd s c (fun x => { x with paused := false }) := by
  unfold handle
  simp [hs, hz, hst, hm]

/-- A zombie cannot be restarted either; the directive only undoes the pause its supervisor put on the mailbox before
sending it (one-for-all restarts reach zombie siblings), so the zombie goes on consuming its mail (C09). -/
theorem C09_zombie_restart_directive_unpauses (s : Sys) (c : Cid) (e : Env) (poison : Bool)
    (hm : e.msg = .restart poison) (hz : (s.ctx c).zombie = true) (hst : (s.ctx c).state = .killed) :
    handle s c e = upd s c (fun x => { x with paused := false }) := by
  unfold handle
  simp [hz, hst, hm]

/-- The stop wins over a restart in progress: after a kill has reached an actor whose restart waits for its children,
the actor is no longer restarting, so the completion of its kill chain (`onKilled` once the last child is gone) is a
termination with clean-up, not a restart. -/
theorem C06_kill_wins_over_restart (s : Sys) (c : Cid) (e : Env) (poison : Bool)
    (hm : e.msg = .onKill poison) (hs : e.sys = true) (hz : (s.ctx c).zombie = false)
    (hst : (s.ctx c).state = .killing) :
    ((handle s c e).ctx c).restarting = none ∧ ((handle s c e).ctx c).state = .killing := by
  rw [C06_kill_once s c e poison hm hs hz hst, upd_ctx_self]
  exact ⟨rfl, hst⟩

/-- A child's death notice removes exactly that child from the parent's children — a
re-created namesake (a different context with the same path) stays (this is the update
`onKilled` applies to `children` before anything else). -/
theorem C06_child_death_removes_only_that_child (ch : List Cid) (who other : Cid)
    (hother : other ≠ who) (hin : other ∈ ch) :
    other ∈ ch.filter (· ≠ who) ∧ who ∉ ch.filter (· ≠ who) :=
  ⟨List.mem_filter.2 ⟨hin, decide_eq_true hother⟩, fun h => of_decide_eq_true (List.mem_filter.1 h).2 rfl⟩

/-- The same for a poison-pill kill (it travels in the user queue, so an actor that is already stopping does not
execute it and it ends as a dead letter): it still cancels a restart in progress. -/
theorem C06_poison_kill_wins_over_restart (s : Sys) (c : Cid) (e : Env) (poison : Bool)
    (hm : e.msg = .onKill poison) (hs : e.sys = false) (hz : (s.ctx c).zombie = false)
    (hst : (s.ctx c).state = .killing) :
    ((handle s c e).ctx c).restarting = none ∧ ((handle s c e).ctx c).state = .killing := by
  -- the dead-letter notice for the root is mail: it changes nobody's lifecycle fields, not even when `c` is the root
  have hk := (@frame_enqueue (upd s c fun x => if x.state = .killing then { x with restarting := none } else x) 0 (dlEnv e)).ctx.2 c
  rw [upd_ctx_self, if_pos hst] at hk
  rw [handle_undeliverable s c e (undeliverable_iff.2 ⟨hz, .inr ⟨hs, by rw [hst]; decide⟩⟩), hm]
  exact ⟨congrArg Skel.restarting hk, (congrArg Skel.state hk).trans hst⟩

end Vivid.ActorSys
