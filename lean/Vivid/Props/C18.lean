import Vivid.Proofs.Gossip

/-!
# C18 — gossip membership: what is proved

Per handler, for every input: what a received gossip and a failure-detection tick do to the member
list, and who is leader.  Over every execution of the network (`Step`: any interleaving of ticks,
deliveries of any message in flight — duplicates and arbitrary delays included —, failure-detection
ticks and clock advances): a crashed node stays absent.  In the positive direction only a phase where
no address has two incarnations in play (`OnePerAddr` of the merged list) is covered:
`C18_recv_never_forgets`, `C18_recv_learns`; `Props/C18Converge` draws the consequence for a round.

Not proved (observed by the engine's settle phase instead): that *every* fair schedule reaches
the fixpoint, including phases with restarts in flight (partial).
-/
namespace Vivid.Gossip

theorem handle_WF {n : Node} {now s : Nat} {view : List Mem} (hm : WF n.mem) (hv : WF view) :
    WF (handleGossip n now s view).mem :=
  handle_all (fun _ => touch_WF) hm fun e he => hv e (mem_dropStale.1 he).1

theorem mem_fdTick {n : Node} {now : Nat} {m : Mem} :
    m ∈ (fdTick n now).mem ↔ m ∈ n.mem ∧ (m.addr = n.self.addr ∨ stale n.T now m = false) := by
  simp [fdTick]

/-- Failure detection keeps the fresh entries and (`C18_fd_removes_stale`) removes the stale ones of
other addresses. -/
theorem C18_fd_keeps_fresh (n : Node) (now : Nat) (m : Mem) (h : m ∈ n.mem) (hf : stale n.T now m = false) :
    m ∈ (fdTick n now).mem :=
  mem_fdTick.2 ⟨h, Or.inr hf⟩

theorem C18_fd_removes_stale (n : Node) (now : Nat) (m : Mem) (ha : m.addr ≠ n.self.addr)
    (hs : stale n.T now m = true) : m ∉ (fdTick n now).mem :=
  fun h => (mem_fdTick.1 h).2.elim ha (by rw [hs]; exact Bool.noConfusion)

/-- With every other member fresh, a failure-detection tick changes nothing. -/
theorem C18_fd_quiet (n : Node) (now : Nat)
    (h : ∀ m ∈ n.mem, m.addr ≠ n.self.addr → stale n.T now m = false) : (fdTick n now).mem = n.mem := by
  refine List.filter_eq_self.2 fun m hm => ?_
  by_cases ha : m.addr = n.self.addr
  · simp [ha]
  · simp [h m hm ha]

/-- Direct gossip clears a suspicion: the entry that `refresh` stamps (in `handleGossip`, by way of
`touch`, the newest at the sender's address) is not Suspect afterwards. -/
theorem C18_recv_clears_suspicion (ms : List Mem) (id : Nat × Nat) (now : Nat) (e : Mem)
    (he : e ∈ refresh ms id now) (hid : e.id = id) : e.st ≠ .suspect := by
  obtain ⟨x, _, h1, _, h⟩ := refresh_mem he
  rw [if_pos (h1 ▸ hid)] at h
  exact h.2

/-- Heartbeat: whoever the node keeps for the sender's address after handling its gossip — the
newest incarnation there — was seen now. -/
theorem C18_recv_marks_sender (n : Node) (now s : Nat) (view : List Mem) (t : Mem)
    (h : byAddrNewest (supersede n.self (mergeView (touch n.mem s now)
        (dropStale { n with mem := touch n.mem s now } now s view))) s = some t) :
    ∀ e ∈ (handleGossip n now s view).mem, e.id = t.id → e.seen = now := by
  intro e he hid
  rw [handleGossip_eq, touch, merged, h] at he
  obtain ⟨x, _, h1, _, h⟩ := refresh_mem he
  rw [if_pos (h1 ▸ hid)] at h
  exact h.1

/-- No resurrection by hearsay: an incarnation `c` we do not have, at neither our address nor the
sender's, that a well-formed view reports stale is not adopted (`dropStale` lets no entry for it through). -/
theorem C18_no_readopt (n : Node) (now s : Nat) (view : List Mem) (c : Nat × Nat) (hv : WF view)
    (habs : has n.mem c = false) (hself : c.1 ≠ n.self.addr) (hs : c.1 ≠ s)
    (hstale : ∀ e ∈ view, e.id = c → stale n.T now e = true) :
    has (handleGossip n now s view).mem c = false := by
  refine has_eq_false.2 (handle_all (fun ms h => has_eq_false.1 (has_touch ms s now c ▸ has_eq_false.2 h))
    (has_eq_false.1 habs) fun e he hid => ?_)
  obtain ⟨hev, hk⟩ := mem_dropStale.1 he
  rw [hid, habs, hstale e hev hid, hv e hev, hid] at hk
  simp [hself, hs] at hk

/-- With no address in two incarnations (`h1`; `hself`: ours at our own), handling a gossip loses no
member. -/
theorem C18_recv_never_forgets (n : Node) (now s : Nat) (view : List Mem)
    (h1 : OnePerAddr (merged n now s view))
    (hself : ∀ e ∈ merged n now s view, e.addr = n.self.addr → e.id = n.self.id)
    (i : Nat × Nat) (hi : has n.mem i = true) : has (handleGossip n now s view).mem i = true := by
  rw [handle_has_of_clean h1 hself, hi]; rfl

/-- Under the same hypotheses the node afterwards lists every entry of the view that is at its own or
the sender's address, already known, or fresh by the sender's own record. -/
theorem C18_recv_learns (n : Node) (now s : Nat) (view : List Mem)
    (h1 : OnePerAddr (merged n now s view))
    (hself : ∀ e ∈ merged n now s view, e.addr = n.self.addr → e.id = n.self.id)
    (e : Mem) (he : e ∈ view)
    (hk : e.addr = n.self.addr ∨ e.addr = s ∨ has n.mem e.id = true ∨ stale n.T now e = false) :
    has (handleGossip n now s view).mem e.id = true := by
  rw [handle_has_of_clean h1 hself, Bool.or_eq_true]
  exact Or.inr (has_iff.2 ⟨e, mem_dropStale.2 ⟨he, hk⟩, rfl⟩)

/-- Non-vacuity: node 0 hears from node 1 about node 2 (fresh): it ends up listing 0, 1 and 2. -/
example :
    let n : Node := { self := ⟨(0, 1), 0, 1, 1, 1000, .up, 1000⟩,
                      mem := [⟨(0, 1), 0, 1, 1, 1000, .up, 1000⟩, ⟨(1, 1), 1, 2, 2, 1000, .up, 1000⟩],
                      seeds := [0], T := 2000 }
    (handleGossip n 1500 1 [⟨(1, 1), 1, 2, 2, 1000, .up, 1000⟩, ⟨(2, 1), 2, 2, 2, 1200, .up, 1400⟩]).mem.map (·.id)
      = [(0, 1), (1, 1), (2, 1)] := by decide +kernel

def upAddrs (ms : List Mem) : List Nat := (ms.filter (·.st = .up)).map (·.addr)

theorem leader_eq_min (ms : List Mem) : leader ms = (upAddrs ms).min? := by
  show List.foldl _ none (upAddrs ms) = _
  cases upAddrs ms with
  | nil => rfl
  | cons a t =>
    rw [List.min?_cons']
    refine (List.foldl_hom some (g₁ := fun b x => min x b) fun _ _ => rfl).trans ?_
    simp only [Nat.min_comm]

/-- The leader is the least Up address: a function of the *set* of Up addresses. -/
theorem C18_same_leader (v w : List Mem) (h : ∀ a, a ∈ upAddrs v ↔ a ∈ upAddrs w) :
    leader v = leader w := by
  rw [leader_eq_min, leader_eq_min]
  exact Option.ext fun r => by simp only [List.min?_eq_some_iff, h]

/-- At most one address is the leader of a view; it is an Up member of that view. -/
theorem C18_leader_unique (v : List Mem) (a b : Nat) (ha : leader v = some a) (hb : leader v = some b) :
    a = b ∧ a ∈ upAddrs v :=
  ⟨Option.some.inj (ha.symm.trans hb), List.min?_mem (leader_eq_min v ▸ ha)⟩

structure Net where
  node : Nat → Node
  bag : List (Nat × List Mem)     -- (sender address, view) in flight: never consumed, any may be delivered
  now : Nat

inductive Step : Net → Net → Prop
  | tick (w : Net) (i : Nat) :
      Step w { w with bag := ((w.node i).self.addr, (w.node i).mem) :: w.bag }
  | recv (w : Net) (i : Nat) (m : Nat × List Mem) (hm : m ∈ w.bag) :
      Step w { w with node := fun j => if j = i then handleGossip (w.node i) w.now m.1 m.2 else w.node j }
  | fd (w : Net) (i : Nat) :
      Step w { w with node := fun j => if j = i then fdTick (w.node i) w.now else w.node j }
  | adv (w : Net) (d : Nat) : Step w { w with now := w.now + d }

inductive Steps : Net → Net → Prop
  | refl (w : Net) : Steps w w
  | tail {a b c : Net} : Steps a b → Step b c → Steps a c

theorem step_node {w w' : Net} (st : Step w w') (i : Nat) :
    w'.node i = w.node i ∨ (∃ m ∈ w.bag, w'.node i = handleGossip (w.node i) w.now m.1 m.2) ∨
      w'.node i = fdTick (w.node i) w.now := by
  cases st with
  | tick | adv => exact Or.inl rfl
  | recv j m hm =>
    by_cases h : i = j
    · subst h; exact Or.inr (Or.inl ⟨m, hm, if_pos rfl⟩)
    · exact Or.inl (if_neg h)
  | fd j =>
    by_cases h : i = j
    · subst h; exact Or.inr (Or.inr (if_pos rfl))
    · exact Or.inl (if_neg h)

theorem step_bag {w w' : Net} (st : Step w w') (m : Nat × List Mem) (hm : m ∈ w'.bag) :
    m ∈ w.bag ∨ ∃ i, m = ((w.node i).self.addr, (w.node i).mem) := by
  cases st with
  | tick i => exact (List.mem_cons.1 hm).elim (fun h => Or.inr ⟨i, h⟩) Or.inl
  | recv | fd | adv => exact Or.inl hm

theorem step_now {w w' : Net} (st : Step w w') : w.now ≤ w'.now := by
  cases st with
  | adv d => exact Nat.le_add_right _ _
  | tick | recv | fd => exact Nat.le_refl _

theorem step_T {w w' : Net} (st : Step w w') (i : Nat) : (w'.node i).T = (w.node i).T := by
  rcases step_node st i with h | ⟨_, _, h⟩ | h <;> rw [h] <;> rfl

/-- The crashed incarnation `c` (address `c.1`, never reused): no running node has that address,
nothing from that address is in flight, every record of `c` is at most as recent as `B`. -/
structure Gone (c : Nat × Nat) (B : Nat) (w : Net) : Prop where
  wfN : ∀ i, WF (w.node i).mem
  wfB : ∀ m ∈ w.bag, WF m.2
  noNode : ∀ i, (w.node i).self.addr ≠ c.1
  noMsg : ∀ m ∈ w.bag, m.1 ≠ c.1
  oldN : ∀ i, ∀ e ∈ (w.node i).mem, e.id = c → e.seen ≤ B
  oldB : ∀ m ∈ w.bag, ∀ e ∈ m.2, e.id = c → e.seen ≤ B

def Old (c : Nat × Nat) (B : Nat) (e : Mem) : Prop := e.addr = e.id.1 ∧ (e.id = c → e.seen ≤ B)

/-- `Gone` says the same of a node (its address, its list) and of a message (its sender, its view),
so that a node's own list may be put in flight. -/
theorem gone_iff {c : Nat × Nat} {B : Nat} {w : Net} :
    Gone c B w ↔ (∀ i, (w.node i).self.addr ≠ c.1 ∧ ∀ e ∈ (w.node i).mem, Old c B e) ∧
      ∀ m ∈ w.bag, m.1 ≠ c.1 ∧ ∀ e ∈ m.2, Old c B e :=
  ⟨fun g => ⟨fun i => ⟨g.noNode i, fun e he => ⟨g.wfN i e he, g.oldN i e he⟩⟩,
      fun m hm => ⟨g.noMsg m hm, fun e he => ⟨g.wfB m hm e he, g.oldB m hm e he⟩⟩⟩,
    fun h => ⟨fun i e he => ((h.1 i).2 e he).1, fun m hm e he => ((h.2 m hm).2 e he).1,
      fun i => (h.1 i).1, fun m hm => (h.2 m hm).1,
      fun i e he => ((h.1 i).2 e he).2, fun m hm e he => ((h.2 m hm).2 e he).2⟩⟩

/-- A refreshed entry sits at the sender's address, which is not `c`'s: it is not a record of `c`. -/
theorem old_touch {c : Nat × Nat} {B s now : Nat} (hs : s ≠ c.1) (ms : List Mem) (h : ∀ e ∈ ms, Old c B e) :
    ∀ e ∈ touch ms s now, Old c B e := by
  intro e he
  have hwf : WF ms := fun x hx => (h x hx).1
  rcases touch_mem hwf he with he' | ⟨_, _, _, _, h3⟩
  · exact h e he'
  · have hw := touch_WF hwf e he
    exact ⟨hw, fun hid => absurd (by rw [← h3, hw, hid]) hs⟩

theorem gone_step {c : Nat × Nat} {B : Nat} {w w' : Net} (g : Gone c B w) (st : Step w w') : Gone c B w' := by
  rw [gone_iff] at g ⊢
  refine ⟨fun i => ?_, fun m hm => ?_⟩
  · obtain ⟨ha, ho⟩ := g.1 i
    -- `handleGossip` and `fdTick` keep `self`, so `ha` speaks of the new node as it stands
    rcases step_node st i with h | ⟨m, hm, h⟩ | h <;> rw [h] <;> refine ⟨ha, ?_⟩
    · exact ho
    · exact handle_all (old_touch (g.2 m hm).1) ho fun e he => (g.2 m hm).2 e (mem_dropStale.1 he).1
    · exact fun e he => ho e (mem_fdTick.1 he).1
  · rcases step_bag st m hm with h | ⟨i, rfl⟩
    · exact g.2 m h
    · exact g.1 i

theorem absent_step {c : Nat × Nat} {B : Nat} {w w' : Net} (g : Gone c B w) (st : Step w w') (i : Nat)
    (hlate : B + (w.node i).T < w.now) (habs : has (w.node i).mem c = false) :
    has (w'.node i).mem c = false := by
  rcases step_node st i with h | ⟨m, hm, h⟩ | h <;> rw [h]
  · exact habs
  · exact C18_no_readopt _ _ _ _ c (g.wfB m hm) habs (fun hc => g.noNode i hc.symm)
      (fun hc => g.noMsg m hm hc.symm) fun e he hid => stale_of_le (g.oldB m hm e he hid) hlate
  · exact has_eq_false.2 fun e he => has_eq_false.1 habs e (mem_fdTick.1 he).1

/-- **C18 (a crashed node stays absent).** From any state in which the crashed incarnation `c`
is `Gone` with bound `B`, along *every* execution: a node that does not list `c` at a time later
than `B + T` never lists it again. -/
theorem C18_crashed_stays_absent {c : Nat × Nat} {B : Nat} {w w' : Net} (g : Gone c B w) (i : Nat)
    (hlate : B + (w.node i).T < w.now) (habs : has (w.node i).mem c = false) (ex : Steps w w') :
    has (w'.node i).mem c = false ∧ Gone c B w' ∧ B + (w'.node i).T < w'.now := by
  induction ex with
  | refl => exact ⟨habs, g, hlate⟩
  | tail _ st ih =>
    obtain ⟨h1, h2, h3⟩ := ih
    refine ⟨absent_step h2 st i h3 h1, gone_step h2 st, ?_⟩
    rw [step_T st i]
    exact Nat.lt_of_lt_of_le h3 (step_now st)

/-- **C18 (and failure detection drops it).** A failure-detection tick later than `B + T` removes
every record of `c` from the node's view. -/
theorem C18_fd_drops_crashed {c : Nat × Nat} {B : Nat} {w : Net} (g : Gone c B w) (i : Nat)
    (hlate : B + (w.node i).T < w.now) : has (fdTick (w.node i) w.now).mem c = false := by
  refine has_eq_false.2 fun e he hid => ?_
  obtain ⟨hmem, hkeep⟩ := mem_fdTick.1 he
  rcases hkeep with hk | hk
  · rw [g.wfN i e hmem, hid] at hk; exact g.noNode i hk.symm
  · rw [stale_of_le (g.oldN i e hmem hid) hlate] at hk; cases hk

/-- Non-vacuity: a two-node network after node 1 crashed satisfies `Gone` for it. -/
example : Gone (1, 1) 1000
    { node := fun _ => { self := ⟨(0, 1), 0, 1, 1, 1000, .up, 1000⟩,
                         mem := [⟨(0, 1), 0, 1, 1, 1000, .up, 1000⟩, ⟨(1, 1), 1, 2, 2, 1000, .up, 1000⟩],
                         seeds := [0], T := 2000 },
      bag := [], now := 4000 } := by
  refine gone_iff.2 ⟨fun _ => ?_, nofun⟩
  dsimp only [Old]
  decide

/-- Without a confirmation period the general failure-detection step is the one the theorems above
are about (the engine runs `fdTickD`; `D = 0` in every scenario without suspicion). -/
theorem C18_fdTickD_zero (n : Node) (now : Nat) : fdTickD n 0 now = fdTick n now := by
  unfold fdTickD fdTick stale
  simp

/-- With a confirmation period a member is only removed after `T + D`; before that it is kept,
at worst as Suspect. -/
theorem C18_fdD_keeps_within_confirmation (n : Node) (D now : Nat) (m : Mem) (h : m ∈ n.mem)
    (hf : ¬ m.seen + n.T + D < now) : ∃ e ∈ (fdTickD n D now).mem, e.id = m.id ∧ e.seen = m.seen := by
  unfold fdTickD
  refine ⟨_, List.mem_map.2 ⟨m, List.mem_filter.2 ⟨h, by simp [hf]⟩, rfl⟩, ?_⟩
  split <;> exact ⟨rfl, rfl⟩

end Vivid.Gossip
