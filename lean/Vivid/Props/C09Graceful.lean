import Vivid.Proofs.ActorSysFrame

/-!
# C09 — the graceful variants: the backlog is processed before the restart / stop

A graceful decision sends its `RestartMessage` / poison `OnKill` as a *user* message: it lines up
behind whatever is already queued for the target.  Proved on M10 (handler level): after the
supervisor has handled the failure with a graceful decision, the target's user queue is exactly
what it was, followed by that one message — so, by the FIFO theorems of C02 (`Props/C02Order`),
every message queued behind the failing one is handed to the *old* incarnation before the restart
(or the stop) begins; and the pause is lifted by a system message, so the backlog does get processed.
-/
namespace Vivid.ActorSys

theorem tell_own_eq (s : Sys) (sys : Bool) (sender : Option Cid) (c : Cid) (m : Msg) (hm : ∀ k, m ≠ .user k) :
    tell s sys sender (.own c) m = enqueue s c { id := 0, sys := sys, sender := sender, msg := m } := by
  cases m with
  | user k => exact absurd rfl (hm k)
  | _ => rfl

theorem enqueue_userQ (s : Sys) (c d : Cid) (e : Env) :
    ((enqueue s c e).ctx d).userQ = if d = c ∧ e.sys = false then (s.ctx d).userQ ++ [e] else (s.ctx d).userQ := by
  unfold enqueue
  by_cases h : d = c
  · subst h
    rw [upd_ctx_self]
    cases hs : e.sys <;> simp
  · rw [upd_ctx_other h]; simp [h]

theorem tellAll_sys_userQ (ts : List Cid) (s : Sys) (sender : Option Cid) (m : Msg) (d : Cid) :
    ((tellAll s true sender ts m).ctx d).userQ = (s.ctx d).userQ :=
  List.foldlRecOn (motive := fun x : Sys => (x.ctx d).userQ = (s.ctx d).userQ) ts _ rfl fun x hx t _ => by
    rw [tell_own, enqueue_userQ, if_neg (fun h => nomatch h.2)]; exact hx

theorem tellAll_user_userQ (ts : List Cid) (s : Sys) (sender : Option Cid) (m : Msg) (hm : ∀ k, m ≠ .user k) (d : Cid) :
    ((tellAll s false sender ts m).ctx d).userQ =
      (s.ctx d).userQ ++ List.replicate (ts.count d) { id := 0, sys := false, sender := sender, msg := m } := by
  unfold tellAll
  induction ts generalizing s with
  | nil => exact (List.append_nil _).symm
  | cons t r ih =>
    rw [List.foldl_cons, ih, tell_own_eq s false sender t m hm, enqueue_userQ, List.count_cons]
    by_cases h : d = t
    · rw [if_pos ⟨h, rfl⟩, h, beq_self_eq_true, if_pos rfl, List.append_assoc, List.replicate_succ]; rfl
    · rw [if_neg (fun h' => h h'.1), if_neg (by simpa using Ne.symm h), Nat.add_zero]

theorem tell_up_userQ (s : Sys) (sender : Option Cid) (x : Ctx) (m : Msg) (d : Cid) :
    ((tell s true sender (upTarget x) m).ctx d).userQ = (s.ctx d).userQ := by
  rw [tell_up, enqueue_userQ, if_neg (fun h => nomatch h.2)]

theorem directive_userQ (s : Sys) (self : Cid) (decision : Nat) (targets allT : List Cid) (chain' : List (Cid × List Cid))
    (x : Ctx) (d : Cid) :
    ((directive s self decision targets allT chain' (upTarget x)).ctx d).userQ = (s.ctx d).userQ ++
      if decision = 2 then List.replicate (targets.count d) { id := 0, sys := false, sender := some self, msg := .restart true }
      else if decision = 4 then List.replicate (targets.count d) { id := 0, sys := false, sender := some self, msg := .onKill true }
      else [] := by
  have pause := tellAll_sys_userQ targets s (some self) .cmdPause d
  have resume := fun y => tellAll_sys_userQ allT y (some self) .cmdResume d
  have nil := (List.append_nil (s.ctx d).userQ).symm
  refine directive_cases (P := fun y => (y.ctx d).userQ = _) s self decision targets allT chain' (upTarget x) (fun m hm => ?_)
    (fun m hm => ?_) (fun h => ?_) (fun hn => ?_)
  · rw [tellAll_sys_userQ, pause]
    rcases hm with ⟨rfl, _⟩ | ⟨rfl, _⟩ <;> exact nil
  · rw [resume, tellAll_user_userQ _ _ _ m (by rcases hm with ⟨_, rfl⟩ | ⟨_, rfl⟩ <;> exact nofun), pause]
    rcases hm with ⟨rfl, rfl⟩ | ⟨rfl, rfl⟩ <;> rfl
  · subst h; rw [resume, pause]; exact nil
  · rw [tell_up_userQ, (agree_upd (π := Ctx.userQ) _ self _).2 d, pause, if_neg (hn 2 (by simp)), if_neg (hn 4 (by simp))]
    exact nil

theorem decide_userQ (s : Sys) (sup f : Cid) (rest : List (Cid × List Cid)) (k : Nat)
    (hs : (s.ctx sup).strat = 1) (hd : (s.ctx sup).decisions = [k]) :
    ((onSuperviseDecide s sup ((f, []) :: rest)).ctx f).userQ = (s.ctx f).userQ ++
      if k = 2 then [{ id := 0, sys := false, sender := some sup, msg := .restart true }]
      else if k = 4 then [{ id := 0, sys := false, sender := some sup, msg := .onKill true }] else [] := by
  have h0 := (agree_upd (π := Ctx.userQ) s sup fun x => { x with decIdx := x.decIdx + 1 }).2 f
  rw [onSuperviseDecide_one s sup f rest k hs hd, directive_userQ, say_ctx, h0]
  simp

/-- Graceful restart (decision 2, one-for-one): pause, then the restart request as a user message,
then the resume for every level of the chain. -/
theorem C09_graceful_restart_equation (s : Sys) (sup f : Cid) (rest : List (Cid × List Cid))
    (hs : (s.ctx sup).strat = 1) (hd : (s.ctx sup).decisions = [2]) :
    onSuperviseDecide s sup ((f, []) :: rest) =
      tellAll (tellAll (tellAll (say (upd s sup (fun x => { x with decIdx := x.decIdx + 1 })) s!"decide:{sup}:{f}:{2}")
        true (some sup) [f] .cmdPause) false (some sup) [f] (.restart true))
        true (some sup) ([f] ++ (rest.map (·.2)).flatten) .cmdResume := by
  rw [onSuperviseDecide_one s sup f rest 2 hs hd]; rfl

/-- **The backlog comes first.**  After a graceful-restart decision the target's user queue is its
old user queue followed by the restart request: nothing overtakes the mail queued behind the failure. -/
theorem C09_graceful_restart_behind_backlog (s : Sys) (sup f : Cid) (rest : List (Cid × List Cid))
    (hs : (s.ctx sup).strat = 1) (hd : (s.ctx sup).decisions = [2]) :
    ((onSuperviseDecide s sup ((f, []) :: rest)).ctx f).userQ =
      (s.ctx f).userQ ++ [{ id := 0, sys := false, sender := some sup, msg := .restart true }] :=
  decide_userQ s sup f rest 2 hs hd

/-- Graceful stop (decision 4): the poison kill lines up behind the backlog in the same way. -/
theorem C09_graceful_stop_behind_backlog (s : Sys) (sup f : Cid) (rest : List (Cid × List Cid))
    (hs : (s.ctx sup).strat = 1) (hd : (s.ctx sup).decisions = [4]) :
    ((onSuperviseDecide s sup ((f, []) :: rest)).ctx f).userQ =
      (s.ctx f).userQ ++ [{ id := 0, sys := false, sender := some sup, msg := .onKill true }] :=
  decide_userQ s sup f rest 4 hs hd

/-- The immediate restart (decision 1) goes through the system queue instead: the user queue is untouched
(the backlog is kept for the restarted actor). -/
theorem C09_immediate_restart_keeps_backlog (s : Sys) (sup f : Cid) (rest : List (Cid × List Cid))
    (hs : (s.ctx sup).strat = 1) (hd : (s.ctx sup).decisions = [1]) :
    ((onSuperviseDecide s sup ((f, []) :: rest)).ctx f).userQ = (s.ctx f).userQ :=
  (decide_userQ s sup f rest 1 hs hd).trans (List.append_nil _)

/-- Non-vacuity: two messages (ids 5 and 6) are queued for actor 2 behind its failure; supervisor 1
decides graceful restart: the restart request (id 0) is third in line, and the supervisor's pause and
resume travel through the system queue. -/
example :
    let s := upd (upd (init true) 1 (fun x => { x with strat := 1, decisions := [2] })) 2
      (fun x => { x with userQ := [⟨5, false, none, .user 1⟩, ⟨6, false, none, .user 2⟩] })
    ((onSuperviseDecide s 1 [(2, [])]).ctx 2).userQ.map (·.id) = [5, 6, 0] ∧
    ((onSuperviseDecide s 1 [(2, [])]).ctx 2).sysQ.map (·.msg) = [.cmdPause, .cmdResume] := by decide

end Vivid.ActorSys
