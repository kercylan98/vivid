import Vivid.Proofs.ActorSysCount
import Vivid.Proofs.ActorSysRule

/-!
# C03 — no user message is silently lost, over every execution of M10

`runG` is `run` (the fold of `applyOp` over the steps the lock-step engine takes) with a ghost
record of what happened to the user message carried by each envelope a mailbox handed to
`HandleEnvelop`: `processed` (given to the behaviour; by a running actor if the envelope is user
mail, as every envelope is that `tell` makes for a user message, though `Valid` does not record
that), `zombie` (consumed by a zombie — the documented exception), `dropped` (a dead-letter notice
discarded because the root is no longer running — "after the actor system itself has stopped").
Everything else is still *held*: it sits in a mailbox or stash, or it is on the published
dead-letter list.

*At most once* (no duplication other than by the user's own `Stash` calls) is the counting argument
of `Props/C03Exact.lean` (`C03_exact_account`, `C03_exactly_one_place`).
-/
namespace Vivid.ActorSys

inductive Fate where
  | none | kept | processed | zombie | dropped
  deriving DecidableEq, Repr

/-- The user message id an envelope carries, if any. -/
def carried (e : Env) : Option Nat :=
  match e.msg with
  | .user _ => some e.id
  | .deadLetter x true _ => some x
  | _ => Option.none

theorem carries_iff_carried (i : Nat) (e : Env) : carries i e = true ↔ carried e = some i := by
  unfold carries carried
  cases hm : e.msg with
  | deadLetter x u d => cases u <;> simp
  | _ => simp

/-- What `HandleEnvelop` of context `c` (whose record is `x`) does with the message `e` carries. -/
def fateOf (x : Ctx) (c : Cid) (e : Env) : Fate :=
  match carried e with
  | Option.none => .none
  | some _ =>
    if (x.state = .killed ∨ (!e.sys ∧ x.state ≠ .running)) ∧ !x.zombie then
      (match e.msg with
        | .deadLetter _ _ _ => .dropped      -- an undeliverable dead-letter notice is discarded
        | _ => .kept)                         -- re-addressed to the root as a dead-letter notice
    else
      match e.msg with
      | .user _ => if x.zombie then .zombie else .processed
      | _ => if x.zombie then .zombie else if c = 0 then .kept else .dropped   -- the root publishes it

structure Ghost where
  processed : List Nat
  zombie : List Nat
  dropped : List Nat
  deriving Repr

def Ghost.add (g : Ghost) (f : Fate) (i : Nat) : Ghost :=
  match f with
  | .processed => { g with processed := g.processed ++ [i] }
  | .zombie => { g with zombie := g.zombie ++ [i] }
  | .dropped => { g with dropped := g.dropped ++ [i] }
  | _ => g

def Ghost.has (g : Ghost) (i : Nat) : Prop := i ∈ g.processed ∨ i ∈ g.zombie ∨ i ∈ g.dropped

theorem Ghost.has_add {g : Ghost} {i : Nat} {f : Fate} {j : Nat} (h : g.has i) : (g.add f j).has i := by
  cases f with
  | processed => exact h.imp_left (List.mem_append_left _)
  | zombie => exact h.imp_right (Or.imp_left (List.mem_append_left _))
  | dropped => exact h.imp_right (Or.imp_right (List.mem_append_left _))
  | _ => exact h

def stepG (sg : Sys × Ghost) (o : Op) : Sys × Ghost :=
  match o with
  | .deliver c =>
    match nextMail (sg.1.ctx c) with
    | Option.none => sg
    | some e =>
      (handle (popMail sg.1 c) c e,
        match carried e with
        | some i => sg.2.add (fateOf ((popMail sg.1 c).ctx c) c e) i
        | Option.none => sg.2)
  | o => (applyOp sg.1 o, sg.2)

def runG (fixedLaunch : Bool) (ops : List Op) : Sys × Ghost :=
  ops.foldl stepG (init fixedLaunch, ⟨[], [], []⟩)

theorem stepG_state (sg : Sys × Ghost) (o : Op) : (stepG sg o).1 = applyOp sg.1 o := by
  cases o with
  | deliver c =>
    simp only [stepG, applyOp, deliver_eq]
    cases nextMail (sg.1.ctx c) <;> rfl
  | _ => rfl

/-- Operations from outside name existing contexts when they use a context's own reference. -/
def opOK (s : Sys) : Op → Prop
  | .tell t _ => targetOK s.n t
  | .kill t _ => targetOK s.n t
  | _ => True

def WF : Sys → List Op → Prop
  | _, [] => True
  | s, o :: t => opOK s o ∧ WF (applyOp s o) t

theorem foldl_st {σ : Type} (step : σ → Op → σ) (st : σ → Sys) (hst : ∀ x o, st (step x o) = applyOp (st x) o)
    (ops : List Op) : ∀ x, st (ops.foldl step x) = ops.foldl applyOp (st x) := by
  induction ops with
  | nil => intro x; rfl
  | cons o t ih => intro x; rw [List.foldl_cons, ih, hst]; rfl

theorem foldl_inv {σ : Type} (step : σ → Op → σ) (st : σ → Sys) (hst : ∀ x o, st (step x o) = applyOp (st x) o)
    (P : σ → Prop) (hP : ∀ x o, P x → opOK (st x) o → P (step x o)) (ops : List Op) :
    ∀ x, P x → WF (st x) ops → P (ops.foldl step x) := by
  induction ops with
  | nil => intro x h _; exact h
  | cons o t ih => intro x h hwf; exact ih _ (hP x o h hwf.1) (by rw [hst]; exact hwf.2)

theorem C03_runG_state (fixedLaunch : Bool) (ops : List Op) : (runG fixedLaunch ops).1 = run fixedLaunch ops :=
  foldl_st stepG (·.1) stepG_state ops _

theorem acct_applyOp {s : Sys} (o : Op) (hv : Valid s) (hok : opOK s o) (hnd : ∀ c, o ≠ .deliver c) :
    Acct0 s (applyOp s o) := by
  cases o with
  | deliver c => exact absurd rfl (hnd c)
  | spawn name script kind hooks ds => exact acct_actorOf 0 name script kind hooks ds hv hv.pos
  | tell t k => exact (Acct.refl hv).tell false 0 t (.user k) hok hv.pos
  | kill t poison => exact (Acct.refl hv).tell (!poison) 0 t (.onKill poison) hok hv.pos
  | mkref r path =>
    refine acct_tables _ hv rfl rfl rfl rfl hv.reg (fun e he c hc => ?_) hv.subs
    rcases List.mem_cons.mp he with rfl | he
    · cases hc
    · exact hv.refs e (List.mem_filter.mp he).1 c hc
  | setScript _ _ | clearLog => exact (Acct.refl hv).same

def Inv (sg : Sys × Ghost) : Prop :=
  Valid sg.1 ∧ ∀ i, 1 ≤ i → i < sg.1.nextEnv → Held i sg.1 ∨ sg.2.has i

/-- If the handler makes no copy of the message it was handed, the message's fate goes on record: fate `kept` means a
copy — the dead-letter notice sent to the root, or the root's publication. -/
theorem fate_recorded {s0 : Sys} {c : Cid} {e : Env} {i : Nat} {g : Ghost} (hi : carried e = some i)
    (hd : handleN s0 c e = 0) : (g.add (fateOf (s0.ctx c) c e) i).has i := by
  have last : ∀ l : List Nat, i ∈ l ++ [i] := fun _ => List.mem_append_right _ (List.mem_singleton_self i)
  have hp : (g.add .processed i).has i := .inl (last _)
  have hzo : (g.add .zombie i).has i := .inr (.inl (last _))
  have hdr : (g.add .dropped i).has i := .inr (.inr (last _))
  obtain ⟨id, sys, sender, msg⟩ := e
  unfold handleN behN at hd
  unfold fateOf
  rw [hi]
  by_cases hdead : Undeliverable (s0.ctx c) sys
  · rw [if_pos hdead] at hd ⊢
    cases msg with
    | deadLetter x u d => exact hdr
    | _ => cases hd     -- the notice to the root is a copy
  rw [if_neg hdead] at hd ⊢
  cases msg with
  | user k =>
    dsimp only
    split
    · exact hzo
    · exact hp
  | deadLetter x u d =>
    dsimp only [isDL, triggerOf] at hd ⊢
    by_cases hz : (s0.ctx c).zombie = true
    · rw [if_pos hz]; exact hzo
    rw [if_neg hz] at hd ⊢
    by_cases hc : c = 0
    · rw [if_pos hc] at hd; cases hd     -- the root publishes it: a copy
    · rw [if_neg hc]; exact hdr
  | _ => cases hi

theorem inv_step (sg : Sys × Ghost) (o : Op) (hi : Inv sg) (hok : opOK sg.1 o) : Inv (stepG sg o) := by
  obtain ⟨s, g⟩ := sg
  obtain ⟨hv, hall⟩ := hi
  simp only at hv hall hok
  -- what is on record stays on record; an id that is not is owed a copy (it was held, or this step hands it out),
  -- and it is enough that every id owed a copy is held afterwards or goes on record
  have enough : ∀ (s' : Sys) (g' : Ghost), Valid s' → (∀ i, g.has i → g'.has i) →
      (∀ i, 0 < total i s + freshI s s' i → Held i s' ∨ g'.has i) → Inv (s', g') := by
    intro s' g' hv' hrec howed
    refine ⟨hv', fun i h1 h2 => ?_⟩
    by_cases hg : g.has i
    · exact Or.inr (hrec i hg)
    refine howed i ?_
    by_cases hlt : i < s.nextEnv
    · exact Nat.add_pos_left (total_of_held hv ((hall i h1 hlt).resolve_right hg)) _
    · have : freshI s s' i = 1 := if_pos ⟨Nat.not_lt.mp hlt, h2⟩
      rw [this]; exact Nat.succ_pos _
  have outside : (∀ c, o ≠ .deliver c) → Inv (applyOp s o, g) := fun hnd =>
    have ha := acct_applyOp o hv hok hnd
    enough _ g ha.valid (fun _ => id) fun i h => .inl (held_of_total (by rw [ha.cnt i]; exact Nat.add_pos_left h _))
  cases o with
  | deliver c =>
    simp only [stepG]
    cases hnm : nextMail (s.ctx c) with
    | none => exact ⟨hv, hall⟩
    | some e =>
      obtain ⟨hv', _, hcnt⟩ := acct_deliver hv hnm
      refine enough _ _ hv' (fun i hg => ?_) (fun i howed => ?_)
      · cases carried e with
        | none => exact hg
        | some j => exact Ghost.has_add hg
      · by_cases ht : 0 < total i (handle (popMail s c) c e)
        · exact Or.inl (held_of_total ht)
        -- the popped envelope was the last copy and the handler made no new one
        have := hcnt i
        unfold times at this
        by_cases hcar : carries i e = true
        · rw [if_pos hcar, if_pos hcar] at this
          have hj := (carries_iff_carried i e).mp hcar
          rw [hj]
          exact Or.inr (fate_recorded hj (by omega))
        · rw [if_neg hcar, if_neg hcar] at this
          omega
  | _ => exact outside (fun c h => by cases h)

theorem inv_init (f : Bool) : Inv (init f, ⟨[], [], []⟩) :=
  ⟨valid_init f, fun _ h1 h2 => absurd h2 (Nat.not_lt.mpr h1)⟩

theorem inv_run (ops : List Op) : ∀ sg : Sys × Ghost, Inv sg → WF sg.1 ops → Inv (ops.foldl stepG sg) :=
  foldl_inv stepG (·.1) stepG_state Inv inv_step ops

/-- **C03, globally.**  In every reachable state every user message ever sent is held (in a
mailbox or stash, as itself or as a dead-letter notice on its way to the root, or on the published
dead-letter list), or was processed by an actor's behaviour (`processed` as at the head of the file), consumed by
a zombie, or discarded after the root stopped running.  For all trees, scripts (arbitrary user code
of the script language), schedules, reference provenances (`own` / `path` / `refobj` targets). -/
theorem C03_never_lost (fixedLaunch : Bool) (ops : List Op) (hwf : WF (init fixedLaunch) ops) (i : Nat)
    (h1 : 1 ≤ i) (h2 : i < (runG fixedLaunch ops).1.nextEnv) :
    Held i (runG fixedLaunch ops).1 ∨ i ∈ (runG fixedLaunch ops).2.processed ∨
    i ∈ (runG fixedLaunch ops).2.zombie ∨ i ∈ (runG fixedLaunch ops).2.dropped :=
  (inv_run ops _ (inv_init fixedLaunch) hwf).2 i h1 h2

/-- The structural well-formedness the argument rests on (every context id stored anywhere exists;
non-existent contexts hold no mail; dead-letter notices only sit at the root; ids below `nextEnv`)
holds in every reachable state. -/
theorem C03_wellformed (fixedLaunch : Bool) (ops : List Op) (hwf : WF (init fixedLaunch) ops) :
    Valid (run fixedLaunch ops) := by
  rw [← C03_runG_state]; exact (inv_run ops _ (inv_init fixedLaunch) hwf).1

/-- A message is dropped only by the root, and only when the root is no longer running (the actor
system is stopping or has stopped). -/
theorem C03_dropped_only_after_stop {s : Sys} (c : Cid) (e : Env) (hv : Valid s) (hnm : nextMail (s.ctx c) = some e)
    (hf : fateOf ((popMail s c).ctx c) c e = .dropped) :
    c = 0 ∧ (s.ctx 0).state ≠ .running ∧ (s.ctx 0).zombie = false := by
  have hnodl := ((hv.ctx c).envs e (nextMail_mem hnm)).nodl
  obtain ⟨f, hpop, _, _, hst, hzo⟩ := pop_spec hnm
  rw [hpop, upd_ctx_self] at hf
  obtain ⟨id, sys, sender, msg⟩ := e
  unfold fateOf at hf
  rw [hst, hzo] at hf
  -- only a dead-letter notice is ever dropped, and those sit at the root, which publishes them while it runs
  cases msg with
  | deadLetter x u d =>
    have hc0 : c = 0 := Decidable.byContradiction fun h => nomatch hnodl h
    subst hc0
    cases u with
    | false => cases hf
    | true =>
      dsimp only [carried] at hf
      by_cases hdead : Undeliverable (s.ctx 0) sys
      · exact ⟨rfl, hdead.1.elim (fun h hr => by rw [h] at hr; cases hr) (·.2), (Bool.not_eq_true' _).mp hdead.2⟩
      · rw [if_neg hdead] at hf
        split at hf <;> cases hf
  | user k =>
    dsimp only [carried] at hf
    by_cases hdead : Undeliverable (s.ctx c) sys
    · rw [if_pos hdead] at hf; cases hf
    · rw [if_neg hdead] at hf
      split at hf <;> cases hf
  | _ => cases hf

/-- "Processed" means that the current behaviour is run on the envelope.  (At the root that is the guardian's, which
ignores user messages: `guardBehave`.) -/
theorem C03_processed_runs_behaviour (s0 : Sys) (c : Cid) (e : Env) (k : Nat) (hm : e.msg = .user k)
    (hf : fateOf (s0.ctx c) c e = .processed) :
    handle s0 c e = execRecover s0 c ((s0.ctx c).behaviors.headD (s0.ctx c).script) e (.user k) := by
  unfold fateOf carried at hf
  rw [hm] at hf
  simp only at hf
  split at hf
  · cases hf
  · rename_i hlive
    unfold handle
    simp only [hlive, if_false, hm]

/-- Non-vacuity: a worker stashes one message, processes another, is killed with a third queued
(dead-lettered and published by the root): all three ids are accounted for. -/
example :
    let r := runG true [.setScript 1 [(101, [.stash])], .spawn "a" 1 0 0 [], .deliver 1,
      .tell (.own 1) 1, .tell (.own 1) 2, .deliver 1, .deliver 1, .kill (.own 1) false, .tell (.own 1) 3,
      .deliver 1, .deliver 1, .deliver 0, .deliver 0]
    r.1.nextEnv = 4 ∧ r.2.processed = [1, 2] ∧ r.1.deadLetters = [3] ∧ ((r.1.ctx 1).stash.map (·.id)) = [1] := by
  decide

end Vivid.ActorSys
