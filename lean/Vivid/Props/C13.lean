import Vivid.Proofs.CodecBounds
import Vivid.Proofs.Assoc
import Vivid.Model.Messages

/-!
# C13 — the codec is total

In the model `decA`/`dec` are structurally recursive total functions with exactly two outcomes,
`ok` and `err`: there is no panic outcome and no loop to state a theorem about — that part of the
property is carried by the tie (every truncation and corruption of valid encodings plus random
bytes are decoded by the real code under `recover`, an address-space limit and an allocation
meter, and the outcome class is compared with the model's).  What is proved here is what the
model can carry: how much a decode consumes and allocates.
-/
namespace Vivid.Codec

/-- Two outcomes only, for every schema and every byte string. -/
theorem C13_decode_total (t : Ty) (bs : Bytes) :
    (∃ v r, dec t bs = .ok (v, r)) ∨ dec t bs = .err := by
  cases h : dec t bs with
  | ok p => exact Or.inl ⟨p.1, p.2, rfl⟩
  | err => exact Or.inr rfl

/-- The reader never consumes more than it is given (that what it consumes is a prefix is
`decA_bounded`), and where every pre-sized container of the schema is capped a successful decode
allocates in proportion to what it consumed: `4 * alloc ≤ maxCap t * consumed`. -/
theorem C13_decode_alloc (t : Ty) (hc : capped t = true) (bs : Bytes) (v : V) (al : Nat) (r : Bytes)
    (h : decA t bs = .ok ((v, al), r)) :
    r.length ≤ bs.length ∧ 4 * al ≤ maxCap t * (bs.length - r.length) := by
  obtain ⟨p, rfl, hp⟩ := decA_bounded t hc h
  rw [List.length_append, Nat.add_sub_cancel]
  exact ⟨Nat.le_add_left .., hp⟩

/-- With the member count of a cluster view capped (`memCap = some 65536`, the `fix:` commit), every
schema of the model is capped, with `maxCap ≤ 65536`. -/
theorem C13_registered_capped (name : String) (t : Ty) (h : schemaOf (some 65536) name = some t) :
    capped t = true ∧ maxCap t ≤ 65536 := by
  have hall : ∀ e ∈ schemaTable (some 65536), capped e.2 = true ∧ maxCap e.2 ≤ 65536 := by decide +kernel
  exact hall _ (List.mem_of_lookup_eq_some h)

/-- The code as found (`memCap = none`) is *not* capped: `readClusterView` sized its member map
from the wire count.  Witness for the finding repaired by the `fix:` commit. -/
theorem C13_view_uncapped_witness : capped (viewTy none) = false := by decide

/-- … and a pre-sized container without a cap "allocates" what the wire count says, whatever the
input holds: four bytes (count 3, elements of no size) decode with allocation 3, against the bound
`4 * alloc ≤ maxCap t * consumed` of `C13_decode_alloc`. -/
example : ∃ bs v al r, decA (.list none true .unit) bs = .ok ((v, al), r) ∧ bs.length = 4 ∧ al = 3 := by
  refine ⟨[0, 0, 0, 3], _, _, _, rfl, rfl, rfl⟩

/-- The reflective reader on slices and structs (what a user's `CustomMessageReader` calls), as
repaired: no container is sized from the wire count, so the allocation bound applies to every
destination type of the table. -/
theorem C13_reflective_capped (name : String) (t : Ty) (h : (reflTable false).lookup name = some t) :
    capped t = true := by
  have hall : ∀ e ∈ reflTable false, capped e.2 = true := by decide +kernel
  exact hall _ (List.mem_of_lookup_eq_some h)

/-- The code as found pre-sized the slice from the wire count: no destination type of the table is
capped, and a decode is pre-sized by its count field (here two elements, allocation 2).  Witness
for the finding repaired by the `fix:` commit. -/
theorem C13_reflective_presized_witness :
    (∀ x ∈ (reflTable true).map (·.2), capped x = false) ∧
    ∃ bs v al r, decA (.list none true (.pair .u32 .bytes)) bs = .ok ((v, al), r) ∧ bs.length = 4 + 8 * 2 ∧ al = 2 := by
  refine ⟨by decide +kernel, [0, 0, 0, 2, 0, 0, 0, 7, 0, 0, 0, 0, 0, 0, 0, 9, 0, 0, 0, 0], _, _, _, rfl, rfl, rfl⟩

/-- A failed decode leaves the destination as it was — the specification the engine's `rflinto`
operation compares the real reader with (the Go side also compares every backing array reachable
from the old value). -/
def decInto (t : Ty) (dst : V) (bs : Bytes) : V × Bool :=
  match dec t bs with
  | .ok (v, _) => (v, true)
  | .err => (dst, false)

theorem C13_failed_decode_keeps_destination (t : Ty) (dst : V) (bs : Bytes) (h : (decInto t dst bs).2 = false) :
    (decInto t dst bs).1 = dst := by
  unfold decInto at *
  cases hd : dec t bs with
  | ok p => rw [hd] at h; simp at h
  | err => rfl

end Vivid.Codec
