import Vivid.Proofs.ClusterView

/-!
# C17 — cluster-view merge is order-insensitive and never regresses a member

`SWF`: distinct keys, map key = state id, logical clock non-zero, which is what `newNodeState` and the restart
bump produce in the Go code.  All merge options (three concurrent-version strategies, clock-skew rule in either
outcome) are universally quantified.

Every theorem on `obs` follows from `C17_merge_obs`: per id, a merge keeps the larger of
the two observations in the lexicographic order `ltObs`.
-/
namespace Vivid.View
open Vivid.VV Vivid.Assoc

def ltObs (a b : Int × Nat) : Prop := a.1 < b.1 ∨ (a.1 = b.1 ∧ a.2 < b.2)
instance (a b : Int × Nat) : Decidable (ltObs a b) := by unfold ltObs; exact inferInstance

def maxObs (a b : Int × Nat) : Int × Nat := if ltObs a b then b else a

abbrev optMax := Option.merge maxObs

def leObs (a b : Int × Nat) : Prop := a = b ∨ ltObs a b

def leOpt : Option (Int × Nat) → Option (Int × Nat) → Prop
  | none, _ => True
  | some _, none => False
  | some a, some b => leObs a b

def SWF (m : Members) : Prop :=
  MWF m ∧ ∀ i s, lookup m i = some s → s.id = i ∧ s.lc ≠ 0

def sobs (s : NodeState) : Int × Nat := (s.gen, s.lc)

theorem newer_iff (a b : NodeState) (hid : a.id = b.id) (ha : a.lc ≠ 0) (hb : b.lc ≠ 0) :
    newer b a = true ↔ ltObs (sobs a) (sobs b) := by
  unfold newer ltObs sobs
  by_cases hg : b.gen = a.gen
  · simp only [hg, ne_eq, not_true_eq_false, if_false, hid, true_and, ha, hb, not_false_eq_true,
      if_true, decide_eq_true_eq, Int.lt_irrefl, false_or]
  · simp only [ne_eq, hg, not_false_eq_true, if_true, decide_eq_true_eq]
    exact ⟨.inl, fun h => h.elim id fun h => absurd h.1.symm hg⟩

theorem obs_pick {x y : Option NodeState} {i : String}
    (hx : ∀ s, x = some s → s.id = i ∧ s.lc ≠ 0) (hy : ∀ s, y = some s → s.id = i ∧ s.lc ≠ 0) :
    (pick newer x y).map sobs = optMax (x.map sobs) (y.map sobs) := by
  cases x with
  | none => cases y <;> rfl
  | some a =>
    cases y with
    | none => rfl
    | some b =>
      have ⟨ha1, ha2⟩ := hx a rfl
      have ⟨hb1, hb2⟩ := hy b rfl
      simp only [pick, Option.merge, Option.map_some, maxObs, ← newer_iff a b (ha1.trans hb1.symm) ha2 hb2]
      split <;> rfl

/-- The early return on an empty `other` is the general case. -/
theorem members_mergeFrom (a b : View) (o : MergeOpts) :
    (mergeFrom a b o).1.members = (mergeMembers a.members b.members false).1 := by
  unfold mergeFrom; cases b.members <;> rfl

theorem obs_eq (v : View) (i : String) : obs v i = (lookup v.members i).map sobs := rfl

/-- The membership a merge produces: for every id the newest incarnation of the two views. -/
theorem C17_merge_obs (a b : View) (o : MergeOpts) (ha : SWF a.members) (hb : SWF b.members) (i : String) :
    obs (mergeFrom a b o).1 i = optMax (obs a i) (obs b i) := by
  rw [obs_eq, members_mergeFrom, mergeMembers_lookup b.members hb.1]
  exact obs_pick (ha.2 i) (hb.2 i)

/-- Well-formedness is preserved by merging (so the theorems apply to earlier merges' results). -/
theorem C17_merge_swf (a b : View) (o : MergeOpts) (ha : SWF a.members) (hb : SWF b.members) :
    SWF (mergeFrom a b o).1.members := by
  rw [members_mergeFrom]
  refine ⟨mergeMembers_mwf ha.1, fun i s hs => ?_⟩
  rw [mergeMembers_lookup b.members hb.1] at hs
  rcases pick_eq_or newer (lookup a.members i) (lookup b.members i) with h | h
  · exact ha.2 i s (h ▸ hs)
  · exact hb.2 i s (h ▸ hs)

theorem ltObs_irrefl (a : Int × Nat) : ¬ ltObs a a := by unfold ltObs; omega
theorem ltObs_trichotomy (a b : Int × Nat) : ltObs a b ∨ a = b ∨ ltObs b a := by
  unfold ltObs; rw [Prod.ext_iff]; omega
theorem ltObs_trans (a b c : Int × Nat) : ltObs a b → ltObs b c → ltObs a c := by unfold ltObs; omega
theorem ltObs_asymm (a b : Int × Nat) (h : ltObs a b) : ¬ ltObs b a :=
  fun h' => ltObs_irrefl a (ltObs_trans a b a h h')

theorem maxObs_comm (a b : Int × Nat) : maxObs a b = maxObs b a := by
  unfold maxObs
  rcases ltObs_trichotomy a b with h | h | h
  · rw [if_pos h, if_neg (ltObs_asymm a b h)]
  · rw [h]
  · rw [if_pos h, if_neg (ltObs_asymm b a h)]

theorem maxObs_idem (a : Int × Nat) : maxObs a a = a := if_neg (ltObs_irrefl a)

theorem maxObs_assoc (a b c : Int × Nat) : maxObs (maxObs a b) c = maxObs a (maxObs b c) := by
  unfold maxObs
  by_cases hab : ltObs a b <;> by_cases hbc : ltObs b c <;> simp only [hab, hbc, if_true, if_false]
  · rw [if_pos (ltObs_trans a b c hab hbc)]
  · -- `c ≤ b ≤ a`
    rcases ltObs_trichotomy b c with h | h | h
    · exact absurd h hbc
    · rw [← h, if_neg hab]
    · rw [if_neg fun hac => hab (ltObs_trans a c b hac h)]

/-! Core lifts these three laws from an operation to its `Option.merge`, that is from `maxObs` to `optMax`. -/
instance : Std.Commutative maxObs := ⟨maxObs_comm⟩
instance : Std.Associative maxObs := ⟨maxObs_assoc⟩
instance : Std.IdempotentOp maxObs := ⟨maxObs_idem⟩

theorem leOpt_optMax_left (x y : Option (Int × Nat)) : leOpt x (optMax x y) := by
  cases x with
  | none => trivial
  | some a =>
    cases y with
    | none => exact .inl rfl
    | some b =>
      show leObs a (if ltObs a b then b else a)
      split
      · exact .inr ‹_›
      · exact .inl rfl

/-- Commutative on the members it produces and the incarnation of each (`obs`; two states of one incarnation that
differ otherwise are not ordered, the receiver keeps its own) — for any options on either side. -/
theorem C17_comm (a b : View) (o o' : MergeOpts) (ha : SWF a.members) (hb : SWF b.members) (i : String) :
    obs (mergeFrom a b o).1 i = obs (mergeFrom b a o').1 i := by
  rw [C17_merge_obs a b o ha hb, C17_merge_obs b a o' hb ha, Std.Commutative.comm (op := optMax)]

/-- Associative, in the same sense. -/
theorem C17_assoc (a b c : View) (o1 o2 o3 o4 : MergeOpts)
    (ha : SWF a.members) (hb : SWF b.members) (hc : SWF c.members) (i : String) :
    obs (mergeFrom (mergeFrom a b o1).1 c o2).1 i = obs (mergeFrom a (mergeFrom b c o3).1 o4).1 i := by
  rw [C17_merge_obs _ c o2 (C17_merge_swf a b o1 ha hb) hc, C17_merge_obs a b o1 ha hb,
    C17_merge_obs a _ o4 ha (C17_merge_swf b c o3 hb hc), C17_merge_obs b c o3 hb hc,
    Std.Associative.assoc (op := optMax)]

/-- Idempotent, in the same sense. -/
theorem C17_idem (a : View) (o : MergeOpts) (ha : SWF a.members) (i : String) :
    obs (mergeFrom a a o).1 i = obs a i := by
  rw [C17_merge_obs a a o ha ha, Std.IdempotentOp.idempotent (op := optMax)]

/-- A merge never removes a member and never replaces a member's state by an older incarnation. -/
theorem C17_no_regress (a b : View) (o : MergeOpts) (ha : SWF a.members) (hb : SWF b.members) (i : String) :
    leOpt (obs a i) (obs (mergeFrom a b o).1 i) := by
  rw [C17_merge_obs a b o ha hb]; exact leOpt_optMax_left _ _

theorem C17_no_removal (a b : View) (o : MergeOpts) (ha : SWF a.members) (hb : SWF b.members) (i : String)
    (h : obs a i ≠ none) : obs (mergeFrom a b o).1 i ≠ none := by
  rw [C17_merge_obs a b o ha hb]
  exact fun hn => h (Option.merge_eq_none_iff.1 hn).1

/-- A merge never lowers the epoch (nor the view timestamp, nor the protocol version). -/
theorem C17_epoch_mono (a b : View) (o : MergeOpts) :
    a.epoch ≤ (mergeFrom a b o).1.epoch ∧ a.timestamp ≤ (mergeFrom a b o).1.timestamp ∧
    a.protocol ≤ (mergeFrom a b o).1.protocol := by
  by_cases h : b.members.length = 0
  · rw [mergeFrom, if_pos h]; exact ⟨Int.le_refl _, Int.le_refl _, Nat.le_refl _⟩
  · rw [mergeFrom, if_neg h]
    -- each field is `if adopt ∧ other's is larger then other's else own`
    simp only [Bool.and_eq_true, decide_eq_true_eq]
    refine ⟨?_, ?_, ?_⟩ <;> split <;> omega

/-- `changed = false` is only reported when the membership did not change at all. -/
theorem C17_changed_sound_members (a b : View) (o : MergeOpts) (h : (mergeFrom a b o).2 = false) :
    (mergeFrom a b o).1.members = a.members := by
  rw [members_mergeFrom]
  refine (mergeMembers_unchanged _ _ _ ?_).2
  by_cases he : b.members.length = 0
  · rw [List.eq_nil_of_length_eq_zero he]; rfl
  · rw [mergeFrom, if_neg he] at h
    simp only [Bool.or_eq_false_iff] at h; exact h.1.1.1.1

/-! Non-vacuity: two well-formed views where a restarted incarnation (generation 2) wins. -/
def exA : View := { Vivid.View.empty with members := [("n1", ⟨"n1", 1, 5, 10, 1, "h1"⟩)] }
def exB : View := { Vivid.View.empty with members := [("n1", ⟨"n1", 2, 1, 3, 0, "h1"⟩), ("n2", ⟨"n2", 1, 1, 3, 1, "h2"⟩)] }

example : obs (mergeFrom exA exB ⟨false, 0⟩).1 "n1" = some (2, 1) ∧
    obs (mergeFrom exB exA ⟨true, 1⟩).1 "n1" = some (2, 1) ∧ (mergeFrom exA exB ⟨false, 0⟩).2 = true := by decide

/-! ## The version vector never loses a live member's entry (repaired `recomputeCounts`) -/

theorem prune_keeps (v : VV) (active : List Node) (lim : Nat) (hl : active.length ≤ lim)
    (k : Node) (hk : k ∈ active) : VV.get (pruneWithMax v active (Int.ofNat lim)) k = VV.get v k := by
  have h0 := List.length_pos_of_mem hk
  by_cases hz : v.length = 0 ∨ active.length = 0
  · rw [pruneWithMax, if_pos hz, get_of_length_zero v (hz.resolve_right (Nat.ne_of_gt h0))]; rfl
  · have hpos : ¬ ((lim : Int) ≤ 0) := by omega
    simp only [pruneWithMax, if_neg hz, Int.ofNat_eq_natCast, if_neg hpos, Int.toNat_natCast,
      if_neg (Nat.not_lt.2 hl)]
    rw [get_eq, get_eq, find_filter v (List.contains_iff_mem.2 hk)]

theorem recompute_get (v : View) (k : String) (hk : k ∈ mkeys v.members) :
    VV.get (recompute v).vv k = VV.get v.vv k := by
  have hlen : (mkeys v.members).length = v.members.length := List.length_map ..
  simp only [recompute, hlen ▸ List.length_pos_of_mem hk, if_true]
  exact prune_keeps _ _ _ (hlen ▸ Nat.le_max_right _ _) k hk

/-- **C17 (the version vector does not regress for members).** After a merge, every member of
the result has a counter at least as large as it had in the receiving view (and, unless the
merged-in view has no members, so that `MergeFromWithOptions` returns at once, at least as large as
in the merged-in view). -/
theorem C17_vv_no_regress (a b : View) (o : MergeOpts) (hb : VV.WF b.vv) (k : String)
    (hk : k ∈ mkeys (mergeFrom a b o).1.members) :
    VV.get a.vv k ≤ VV.get (mergeFrom a b o).1.vv k ∧
    (b.members.length ≠ 0 → VV.get b.vv k ≤ VV.get (mergeFrom a b o).1.vv k) := by
  rw [members_mergeFrom] at hk
  by_cases he : b.members.length = 0
  · rw [mergeFrom, if_pos he]; exact ⟨Nat.le_refl _, fun h => absurd he h⟩
  · rw [mergeFrom, if_neg he, merge_get _ _ hb, recompute_get _ k hk]
    exact ⟨Nat.le_max_left _ _, fun _ => Nat.le_max_right _ _⟩

end Vivid.View
