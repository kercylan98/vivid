import Vivid.Proofs.ActorSys

/-!
# C02 — processing order at the mailbox / handler level (M10)

The ring buffer refines a FIFO list (`Props/C02.lean`).  These theorems state the remaining
clauses of C02, one step at a time, on the actor-system model, whose `deliver` is tied to the real
mailbox policy by the lock-step engines (mailbox engine for the policy itself, actorsys engine for
its use).  `Props/C02History.lean` lifts them to whole histories.
-/
namespace Vivid.ActorSys

/-- A pending system message is handled before any pending user message, whatever the user queue
holds and whether or not the mailbox is paused. -/
theorem C02_system_first (s : Sys) (c : Cid) (e : Env) (rest : List Env) (h : (s.ctx c).sysQ = e :: rest) :
    deliver s c = some (handle (upd s c (fun y => { y with sysQ := rest })) c e) := by
  unfold deliver; simp [h]

/-- With no system message pending and the mailbox not paused, the *oldest* user message is handled
and the rest keeps its order. -/
theorem C02_user_fifo (s : Sys) (c : Cid) (e : Env) (rest : List Env)
    (hs : (s.ctx c).sysQ = []) (hp : (s.ctx c).paused = false) (hu : (s.ctx c).userQ = e :: rest) :
    deliver s c = some (handle (upd s c (fun y => { y with userQ := rest })) c e) := by
  unfold deliver; simp [hs, hp, hu]

/-- A paused mailbox with no system message pending processes nothing (user mail is held). -/
theorem C02_paused_holds (s : Sys) (c : Cid) (hs : (s.ctx c).sysQ = []) (hp : (s.ctx c).paused = true) :
    deliver s c = none := by
  unfold deliver; simp [hs, hp]

/-- An accepted message goes to the tail of the queue of its class (so per-sender order is queue
order); the other queue is untouched. -/
theorem C02_enqueue_tail (s : Sys) (c : Cid) (e : Env) :
    ((enqueue s c e).ctx c).sysQ = (if e.sys then (s.ctx c).sysQ ++ [e] else (s.ctx c).sysQ) ∧
    ((enqueue s c e).ctx c).userQ = (if e.sys then (s.ctx c).userQ else (s.ctx c).userQ ++ [e]) := by
  rw [enqueue_eq, upd_ctx_self, push]; cases e.sys <;> exact ⟨rfl, rfl⟩

/-- `Kill(ref, poison = false)` from a handler: a *system* message to the target (it overtakes
queued user mail by `C02_system_first`). -/
theorem C02_kill_is_system (s : Sys) (self : Cid) (cur : Env) (t : String) (rest : List Action) :
    runActions s self cur (.kill t false :: rest) =
      runActions (tell s true (some self) (evalTarget s self cur t) (.onKill false)) self cur rest :=
  rfl

/-- `Kill(ref, poison = true)`: a *user* message, queued behind the user mail already there (by
`C02_enqueue_tail`, and handled after it by `C02_user_fifo`). -/
theorem C02_poison_is_user (s : Sys) (self : Cid) (cur : Env) (t : String) (rest : List Action) :
    runActions s self cur (.kill t true :: rest) =
      runActions (tell s false (some self) (evalTarget s self cur t) (.onKill true)) self cur rest :=
  rfl

theorem unstash_ctx (s : Sys) (self : Cid) (cur : Env) (n : Nat) :
    (runActions s self cur [.unstash n]).s.ctx self =
      let x := s.ctx self
      let k := if n = 0 then min 1 x.stash.length else min n x.stash.length
      { x with sysQ := x.sysQ ++ (x.stash.take k).filter (fun e => e.sys),
               userQ := x.userQ ++ (x.stash.take k).filter (fun e => !e.sys), stash := x.stash.drop k } := by
  simp only [runActions, upd_ctx_self, foldl_enqueue_ctx]

/-- `Unstash(n)` (`n ≥ 1`): the first `n` stashed envelopes come back in stash order — user
envelopes at the tail of the user queue, in order — and exactly those leave the stash. -/
theorem C02_unstash_order (s : Sys) (self : Cid) (cur : Env) (n : Nat) (hn : 0 < n) :
    let st := (s.ctx self).stash
    let s' := (runActions s self cur [.unstash n]).s
    (s'.ctx self).userQ = (s.ctx self).userQ ++ (st.take n).filter (fun e => !e.sys) ∧
    (s'.ctx self).stash = st.drop n := by
  simp only [unstash_ctx, if_neg (Nat.ne_of_gt hn), ← List.take_eq_take_min, ← List.drop_eq_drop_min, and_self]

/-- Non-vacuity: two messages are stashed, then `Unstash(2)`: they are queued again, in order. -/
example :
    let s0 : Sys := { (init true) with scripts := [(1, [(100, [.stash]), (101, [.stash]), (102, [.unstash 2])])] }
    let s1 := actorOf s0 0 "a" 1 0 0 []
    let s2 := (deliver s1 1).getD s1
    let s3 := tell (tell (tell s2 false (some 0) (.own 1) (.user 0)) false (some 0) (.own 1) (.user 1)) false (some 0) (.own 1) (.user 2)
    let s4 := (deliver ((deliver ((deliver s3 1).getD s3) 1).getD s3) 1).getD s3
    ((s4.ctx 1).userQ.map (·.msg)) = [.user 0, .user 1] ∧ (s4.ctx 1).stash = [] := by decide

end Vivid.ActorSys
