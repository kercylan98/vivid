import Vivid.Model.Framing
import Vivid.Proofs.Codec

/-!
# C11 — remote delivery over a healthy link: exactly once, in order, intact (framing core)

`rx` reads the flat byte stream; how TCP split or coalesced it into reads makes no difference to
what `io.ReadFull` returns (`C11_readFull_chunking`).  Kernel TCP itself, the per-connection write
lock and the mailbox FIFO on both ends are outside this model (partial; see DESIGN.md): the
`framing` engine feeds the real `tcpConnectionActor` every chunking of small bursts and runs
loopback bursts between two real systems.
-/
namespace Vivid.Framing
open Vivid.Codec

theorem rx_be {fuel n : Nat} {r : Bytes} (hn : n < 256 ^ 4) :
    rx (fuel + 1) (be 4 n ++ r) =
      if n = 0 then [.closeFrame]
      else if n > limit then .invalidLength n :: rx fuel r
      else if r.length < n then [.eofMid]
      else .deliver (r.take n) :: rx fuel (r.drop n) := by
  have hl : (be 4 n).length = 4 := be_length 4 n
  have h4 : 4 ≤ (be 4 n ++ r).length := by rw [List.length_append, hl]; exact Nat.le_add_right ..
  rw [rx, if_neg (Nat.ne_zero_of_lt h4), if_neg (Nat.not_lt.2 h4), List.take_left' hl,
    List.drop_left' hl, unbe_be 4 n 0 hn, Nat.zero_mul, Nat.zero_add]

theorem limit_lt : limit < 256 ^ 4 := by decide

theorem rx_frame {fuel : Nat} {p r : Bytes} (h0 : 0 < p.length) (hl : p.length ≤ limit) :
    rx (fuel + 1) (frame p ++ r) = .deliver p :: rx fuel r := by
  rw [frame, List.append_assoc, rx_be (Nat.lt_of_le_of_lt hl limit_lt),
    if_neg (Nat.ne_of_gt h0), if_neg (Nat.not_lt.2 hl), if_neg (by simp), List.take_left,
    List.drop_left]

def encodeAll (ps : List Bytes) : Bytes := (ps.map frame).flatten

theorem encodeAll_cons (p : Bytes) (ps : List Bytes) :
    encodeAll (p :: ps) = frame p ++ encodeAll ps := rfl

theorem rx_encodeAll (ps : List Bytes) (hp : ∀ p ∈ ps, 0 < p.length ∧ p.length ≤ limit)
    (fuel : Nat) (r : Bytes) :
    rx (ps.length + fuel) (encodeAll ps ++ r) = ps.map .deliver ++ rx fuel r := by
  induction ps with
  | nil => rw [List.length_nil, Nat.zero_add]; rfl
  | cons p ps ih =>
    obtain ⟨⟨h0, hl⟩, hp⟩ := List.forall_mem_cons.1 hp
    rw [List.length_cons, Nat.add_right_comm, encodeAll_cons, List.append_assoc,
      rx_frame h0 hl, ih hp]
    rfl

/-- Reassembly: a burst of any length, any payload sizes from 1 byte to the 4 MiB limit, is
delivered exactly once each, in order, intact, followed by a clean end of stream. -/
theorem C11_reassembly (ps : List Bytes) (hp : ∀ p ∈ ps, 0 < p.length ∧ p.length ≤ limit) :
    ∀ fuel, ps.length < fuel → rx fuel (encodeAll ps) = ps.map .deliver ++ [.eofClean] := by
  intro fuel hf
  obtain ⟨f, rfl⟩ := Nat.exists_eq_add_of_lt hf
  rw [← List.append_nil (encodeAll ps)]
  exact rx_encodeAll ps hp (f + 1) []

theorem delivered_deliver (ps : List Bytes) (es : List Ev) :
    delivered (ps.map .deliver ++ es) = ps ++ delivered es := by
  induction ps with
  | nil => rfl
  | cons p ps ih => exact congrArg (p :: ·) ih

theorem C11_delivered_exact (ps : List Bytes) (hp : ∀ p ∈ ps, 0 < p.length ∧ p.length ≤ limit) :
    delivered (rx (ps.length + 1) (encodeAll ps)) = ps := by
  rw [C11_reassembly ps hp _ (Nat.lt_succ_self _), delivered_deliver]
  exact List.append_nil ps

/-- **Several concurrent senders.**  All traffic to one address is written frame by frame under
the connection lock, so the byte stream is the concatenation of whole frames in lock order: some
interleaving `m` of the senders' sequences, each entry tagged with its sender.  Whatever that
interleaving is, the receiver delivers exactly `m`'s payloads in that order, hence the payloads
of every sender `s` in the order `s` wrote them (as a subsequence: payloads carry no sender). -/
theorem C11_per_sender_order (m : List (Nat × Bytes)) (hp : ∀ x ∈ m, 0 < x.2.length ∧ x.2.length ≤ limit) (s : Nat) :
    delivered (rx (m.length + 1) (encodeAll (m.map (·.2)))) = m.map (·.2) ∧
    ((m.filter (fun x => x.1 == s)).map (·.2)).Sublist (delivered (rx (m.length + 1) (encodeAll (m.map (·.2))))) := by
  have h := C11_delivered_exact (m.map (·.2)) (List.forall_mem_map.2 hp)
  rw [List.length_map] at h
  rw [h]
  exact ⟨rfl, List.filter_sublist.map _⟩

example : delivered (rx 4 (encodeAll ([(1, [1, 2]), (2, [9]), (1, [3])].map (·.2)))) = [[1, 2], [9], [3]] := by decide

/-- `io.ReadFull` is independent of the chunking: whatever it returns is the first `n` bytes of
the concatenation, and what is left concatenates to the rest. -/
theorem C11_readFull_chunking (f : Nat) : ∀ (cs : List Bytes) (n : Nat) (bs : Bytes) (r : List Bytes),
    readFull f cs n = some (bs, r) → bs.length = n ∧ bs ++ r.flatten = cs.flatten := by
  intro cs n
  fun_induction readFull f cs n with
  | case1 | case3 | case6 => intro _ _ h; cases h
  | case2 => intro _ _ h; cases h; exact ⟨rfl, rfl⟩
  | case4 f cs n ih => exact ih
  | case5 f b t cs n bs r hr ih =>
    intro _ _ h; cases h
    obtain ⟨h1, h2⟩ := ih bs r hr
    exact ⟨congrArg (· + 1) h1, congrArg (b :: ·) h2⟩

example : delivered (rx 3 (encodeAll [[1, 2, 3], [9]])) = [[1, 2, 3], [9]] := by decide

end Vivid.Framing
