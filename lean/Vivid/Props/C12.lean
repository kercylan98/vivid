import Vivid.Proofs.Codec
import Vivid.Model.Messages

/-!
# C12 — the wire codec round-trips every value

`enc t v = some bs` is the well-typedness guard: it holds exactly for the values the Go writer
can represent (lengths and counts below 2^32, integers within their width, valid version-vector
entries, counts within the caps).  The theorems hold for every schema — in particular for the
schema of every registered message that has one (`Tie/Registry.lean` shows which do).
-/
namespace Vivid.Codec

/-- Primitive writer and reader agree (instances of the generic theorem, spelled out). -/
theorem C12_prim_u32 (x : Nat) (h : x < 2 ^ 32) (rest : Bytes) :
    dec .u32 (be 4 x ++ rest) = .ok (.n x, rest) :=
  roundtrip .u32 (.n x) _ rest (if_pos h)

theorem C12_prim_string (bs rest : Bytes) (h1 : bs.length < 2 ^ 32) (h2 : wellBytes bs = true) :
    dec .bytes (be 4 bs.length ++ bs ++ rest) = .ok (.bytes bs, rest) := by
  apply roundtrip; simp [enc, h1, h2]

theorem encMessage_eq_some {memCap : Option Nat} {name : String} {v : V} {bs : Bytes}
    (h : encMessage memCap name v = some bs) :
    ∃ t body, schemaOf memCap name = some t ∧ enc t v = some body ∧
      enc (.pair .bytes .bytes) (.pair (.bytes body) (.bytes (nameBytes name))) = some bs := by
  unfold encMessage at h
  split at h
  · cases h
  · next t hs =>
    split at h
    · cases h
    · next body he => exact ⟨t, body, hs, he, h⟩

/-- `WriteMessage` / `ReadMessage`: for every name with a schema that the reader finds in its table
of names (`known`) and every representable value, the message comes back under its own name with
nothing left over from its bytes. -/
theorem C12_message_roundtrip (memCap : Option Nat) (name : String) (v : V) (bs rest : Bytes)
    (known : List String) (hk : known.find? (fun k => nameBytes k = nameBytes name) = some name)
    (h : encMessage memCap name v = some bs) :
    ∃ al, decMessage memCap known (bs ++ rest) = .ok (nameBytes name) v al rest := by
  obtain ⟨t, body, hs, he, h⟩ := encMessage_eq_some h
  have hd := roundtrip _ _ bs rest h
  obtain ⟨al, hb⟩ := roundtripA t v body [] he
  rw [List.append_nil] at hb
  exact ⟨al, by simp only [decMessage, hd, hk, hs, hb]⟩

/-- The envelope's system flag, sender and receiver (including absent ones, written as empty
strings) survive unchanged, after the message. -/
theorem C12_envelope_roundtrip (memCap : Option Nat) (name : String) (v tail : V) (bs : Bytes)
    (h : encEnvelope memCap name v tail = some bs) :
    ∃ body, enc (.pair .bytes .bytes) (.pair (.bytes body) (.bytes (nameBytes name))) ≠ none ∧
      dec (.pair .bytes (.pair .bytes envTail)) bs =
        .ok (.pair (.bytes body) (.pair (.bytes (nameBytes name)) tail), []) := by
  obtain ⟨m, tb, hm, ht, rfl⟩ := app2_eq_some h
  obtain ⟨t, body, -, -, hm⟩ := encMessage_eq_some hm
  refine ⟨body, hm ▸ Option.some_ne_none _, ?_⟩
  -- the message bytes are `bytes body ++ bytes name`; the tail follows: regroup the three
  obtain ⟨b1, b2, h1, h2, rfl⟩ := app2_eq_some hm
  have e : enc (.pair .bytes (.pair .bytes envTail))
      (.pair (.bytes body) (.pair (.bytes (nameBytes name)) tail)) = some (b1 ++ (b2 ++ tb)) := by
    rw [enc_pair, enc_pair, h1, h2, ht]; rfl
  have := roundtrip _ _ _ [] e
  rwa [List.append_nil, ← List.append_assoc] at this

/-- Non-vacuity: a cluster view with one member, a label map and a version vector is
representable (`enc … = some _`), so the round-trip theorems apply to it. -/
def exView : V :=
  .some (.pair (.bytes [118]) (.pair (.i 3) (.pair (.i 7)
    (.pair (.cons (.pair (.bytes [110]) (.some
        (.pair (.bytes [110]) (.pair (.bytes []) (.pair (.bytes [104]) (.pair (.i 2) (.pair (.i (-1))
          (.pair (.n 0) (.pair (.i 1) (.pair (.b false) (.pair (.i 5) (.pair (.n 9)
            (.pair .nil (.pair (.cons (.pair (.bytes [100]) (.bytes [99])) .nil) (.n 0))))))))))))))) .nil)
    (.pair (.i 1) (.pair (.i 0) (.pair (.i 1)
      (.pair (.cons (.pair (.bytes [110]) (.n 4)) .nil) (.pair (.n 1) (.i 0))))))))))

set_option maxRecDepth 100000 in
example : (enc (viewTy (some 65536)) exView).isSome = true := by decide

end Vivid.Codec
