import Vivid.Proofs.Ring
import Vivid.Spec.Fifo

/-! # C02 (ring part) — the growing ring buffer is a FIFO queue -/
namespace Vivid.Fifo

theorem run_no_nil (ops : List Op) (q : List Nat) : Out.nilSlot ∉ (run q ops).2 := by
  induction ops generalizing q with
  | nil => exact List.not_mem_nil
  | cons op ops ih =>
    simp only [run, List.mem_cons, not_or]
    refine ⟨?_, ih _⟩
    cases op with
    | push x => exact Out.noConfusion
    | pop => cases q <;> exact Out.noConfusion

end Vivid.Fifo

namespace Vivid.Ring
open Vivid.Fifo

def step (r : Ring) : Op → Ring × Out
  | .push x => (push r x, .pushed)
  | .pop =>
    match pop r with
    | (r', none) => (r', .empty)
    | (r', some (some y)) => (r', .popped y)
    | (r', some none) => (r', .nilSlot)

def run (r : Ring) : List Op → Ring × List Out
  | [] => (r, [])
  | op :: ops =>
    let (r', o) := step r op
    let (r'', os) := run r' ops
    (r'', o :: os)

theorem C02_ring_step (r : Ring) (q : List Nat) (op : Op) (h : Rel r q) :
    (step r op).2 = (Fifo.step q op).2 ∧ Rel (step r op).1 (Fifo.step q op).1 := by
  cases op with
  | push x => exact ⟨rfl, rel_push h x⟩
  | pop =>
    cases q with
    | nil => simp only [step, pop_empty h]; exact ⟨rfl, h⟩
    | cons y t =>
      obtain ⟨r', hp, hr⟩ := rel_pop h
      simp only [step, hp]; exact ⟨rfl, hr⟩

theorem C02_ring_run (ops : List Op) : ∀ (r : Ring) (q : List Nat), Rel r q →
    (run r ops).2 = (Fifo.run q ops).2 ∧ Rel (run r ops).1 (Fifo.run q ops).1 := by
  induction ops with
  | nil => intro r q h; exact ⟨rfl, h⟩
  | cons op ops ih =>
    intro r q h
    have ⟨h1, h2⟩ := C02_ring_step r q op h
    have ⟨h3, h4⟩ := ih _ _ h2
    simp only [run, Fifo.run]
    exact ⟨by rw [h1, h3], h4⟩

/-- For every initial size `n > 0` and every sequence of `Push`/`Pop` — any length, across any
number of growth boundaries — the ring returns exactly what a list-FIFO returns and holds
exactly its contents. -/
theorem C02_ring_refines_fifo (n : Nat) (hn : 0 < n) (ops : List Op) :
    (run (new n) ops).2 = (Fifo.run [] ops).2 ∧ Rel (run (new n) ops).1 (Fifo.run [] ops).1 :=
  C02_ring_run ops (new n) [] (rel_new n hn)

/-- Pop never hands out an empty slot.  (That it reports empty only when nothing is queued is part
of the refinement above.) -/
theorem C02_ring_no_nil (n : Nat) (hn : 0 < n) (ops : List Op) :
    Out.nilSlot ∉ (run (new n) ops).2 :=
  (C02_ring_refines_fifo n hn ops).1 ▸ Fifo.run_no_nil ops []

/-- Non-vacuity: a size-2 ring grows on the 2nd push and still pops in order. -/
example : (run (new 2) [.push 1, .push 2, .push 3, .pop, .pop, .pop, .pop]).2
    = [.pushed, .pushed, .pushed, .popped 1, .popped 2, .popped 3, .empty] := by
  decide +kernel  -- runs the ring itself (`Array` operations: plain `decide` gets stuck on them)

end Vivid.Ring
