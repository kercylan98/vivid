import Vivid.Props.C11

/-!
# C14 — remoting under connection faults (framing core)

The receiver on one stream that is cut or carries a bad frame.  The sequence of connections of a
link is `Props/C14EndToEnd.lean`; dead-lettering after the retry budget and recovery after the peer
returns are proved on the model of the send loop (`Props/C14SendLoop.lean`); that `Tell` returns at
once while delivery is retried is runtime behaviour, observed by the `remote` engine (monitor
TELL-BLOCKS; partial).
-/
namespace Vivid.Framing
open Vivid.Codec

theorem frame_length (p : Bytes) : (frame p).length = 4 + p.length := by
  rw [frame, List.length_append, be_length]

theorem delivered_rx_short {fuel : Nat} {bs : Bytes} (h : bs.length < 4) :
    delivered (rx fuel bs) = [] := by
  cases fuel with
  | zero => rfl
  | succ fuel =>
    by_cases h0 : bs.length = 0
    · rw [rx, if_pos h0]; rfl
    · rw [rx, if_neg h0, if_pos h]; rfl

theorem rx_cut_inside {fuel : Nat} {p : Bytes} {k : Nat} (hk : k < (frame p).length)
    (hl : p.length ≤ limit) :
    delivered (rx fuel ((frame p).take k)) = [] := by
  by_cases hk4 : k < 4
  · exact delivered_rx_short (Nat.lt_of_le_of_lt (List.length_take_le ..) hk4)
  · obtain ⟨j, rfl⟩ := Nat.exists_eq_add_of_le (Nat.not_lt.1 hk4)
    rw [frame_length] at hk
    have hj : (p.take j).length < p.length :=
      Nat.lt_of_le_of_lt (List.length_take_le ..) (Nat.lt_of_add_lt_add_left hk)
    have ht := List.take_length_add_append (l₁ := be 4 p.length) (l₂ := p) j
    rw [be_length] at ht
    cases fuel with
    | zero => rfl
    | succ fuel =>
      rw [frame, ht, rx_be (Nat.lt_of_le_of_lt hl limit_lt), if_neg (Nat.ne_zero_of_lt hj),
        if_neg (Nat.not_lt.2 hl), if_pos hj]
      rfl

/-- If the connection breaks after any byte offset of a multi-frame stream — inside a length
prefix, inside a payload, or between frames — the receiver hands over a prefix of the frames that
were sent, each intact and in order: never a partial, corrupted, duplicated or reordered payload. -/
theorem C14_cut_prefix (ps : List Bytes) (hp : ∀ p ∈ ps, 0 < p.length ∧ p.length ≤ limit) :
    ∀ (k fuel : Nat), ps.length < fuel →
      ∃ m, m ≤ ps.length ∧ delivered (rx fuel ((encodeAll ps).take k)) = ps.take m := by
  induction ps with
  | nil => exact fun k fuel _ => ⟨0, Nat.le_refl _, delivered_rx_short (by simp [encodeAll])⟩
  | cons p t ih =>
    intro k fuel hf
    obtain ⟨f, rfl⟩ := Nat.exists_eq_add_one_of_ne_zero (Nat.ne_zero_of_lt hf)
    obtain ⟨⟨h0, hl⟩, hp⟩ := List.forall_mem_cons.1 hp
    rw [encodeAll_cons, List.take_append]
    by_cases hk : k < (frame p).length
    · rw [Nat.sub_eq_zero_of_le (Nat.le_of_lt hk), List.take_zero, List.append_nil]
      exact ⟨0, Nat.zero_le _, rx_cut_inside hk hl⟩
    · obtain ⟨m, hm, hd⟩ := ih hp (k - (frame p).length) f (Nat.lt_of_succ_lt_succ hf)
      rw [List.take_of_length_le (Nat.le_of_not_lt hk), rx_frame h0 hl]
      exact ⟨m + 1, Nat.succ_le_succ hm, congrArg (p :: ·) hd⟩

/-- `rx_frame` under the property's name: whatever a payload holds (bytes the decoder will reject,
say), its frame is handed over whole and the receiver goes on right behind it; framing never looks
inside a payload. -/
theorem C14_resync (fuel : Nat) (garbage : Bytes) (rest : Bytes)
    (h0 : 0 < garbage.length) (hl : garbage.length ≤ limit) :
    rx (fuel + 1) (frame garbage ++ rest) = .deliver garbage :: rx fuel rest :=
  rx_frame h0 hl

/-- An oversized length prefix (a frame the sender should never have written) desynchronises the
receiver: it keeps parsing right after the 4 bytes, i.e. inside the oversized body.  Witness that
"an invalid frame does not stop later frames" relies on the sender never exceeding the limit. -/
example : delivered (rx 3 ([0, 64, 0, 1] ++ [0, 0, 0, 1, 7])) = [[7]] := by decide

end Vivid.Framing
