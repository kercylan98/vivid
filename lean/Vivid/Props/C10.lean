import Vivid.Model.Lockset
import Vivid.Generated.AccessTable

/-!
# C10 — the documented-concurrent API does not race on shared memory (lockset discipline)
-/
namespace Vivid.Access

theorem LockInv.mono {h h' : Held} (hi : LockInv h) (sub : ∀ u, ∀ l ∈ h' u, l ∈ h u) : LockInv h' :=
  fun t u htu l hl m hm => hi t u htu l (sub t l hl) m (sub u m hm)

theorem lockInv_step {h h' : Held} (hi : LockInv h) (st : Step h h') : LockInv h' := by
  cases st with
  | acq t l x en =>
    have old (u m) (hm : m ∈ if u = t then (l, x) :: h u else h u) : m ∈ h u ∨ (u = t ∧ m = (l, x)) := by
      split at hm
      next e => exact (List.mem_cons.1 hm).symm.imp_right fun e' => ⟨e, e'⟩
      next => exact .inl hm
    intro a b hab la hla mb hmb heq
    rcases old a la hla with oa | ⟨rfl, rfl⟩ <;> rcases old b mb hmb with ob | ⟨rfl, rfl⟩
    · exact hi a b hab la oa mb ob heq
    · exact (en a hab la oa heq).symm
    · exact en b hab.symm mb ob heq.symm
    · exact absurd rfl hab
  | rel t l =>
    refine hi.mono fun u m hm => ?_
    split at hm
    · exact (List.mem_filter.1 hm).1
    · exact hm

theorem lockInv_reach {h : Held} (r : Reach h) : LockInv h := by
  induction r with
  | init => intro _ _ _ l hl; simp at hl
  | step _ st ih => exact lockInv_step ih st

/-- **C10 (lockset soundness).** With a race-free table, no reachable state has two different
threads both positioned at conflicting accesses of the table while holding the locks recorded
for them: conflicting accesses exclude each other in time. -/
theorem C10_lockset_sound (tbl : List Acc) (hrf : raceFree tbl = true) {h : Held} (r : Reach h)
    (t u : Nat) (htu : t ≠ u) (a b : Acc) (ha : a ∈ tbl) (hb : b ∈ tbl)
    (hta : ∀ l ∈ a.locks, l ∈ h t) (hub : ∀ l ∈ b.locks, l ∈ h u) :
    conflict a b = false := by
  have hok : okPair a b = true := List.all_eq_true.1 (List.all_eq_true.1 hrf a ha) b hb
  cases hc : conflict a b with
  | false => rfl
  | true =>
    have hp : protectedBy a b = true := by simpa [okPair, hc] using hok
    obtain ⟨l, hl, hp⟩ := List.any_eq_true.1 hp
    obtain ⟨m, hm, hp⟩ := List.any_eq_true.1 hp
    simp only [Bool.and_eq_true, beq_iff_eq, Bool.or_eq_true] at hp
    have := lockInv_reach r t u htu l (hta l hl) m (hub m hm) hp.1
    rcases hp.2 with h1 | h1
    · rw [this.1] at h1; cases h1
    · rw [this.2] at h1; cases h1

/-- `okPair`, in both orders, for every row of `w` against every row of `t` with the same field id.  Both
lists are split by the low `k` bits of the id, which keeps such rows together whatever `k` is.  The kernel's
time goes into linear passes over the table: `raceFree` makes one per row, this `2 * k`, and none over `t`
where `w` has run empty. -/
def okAcross : Nat → List Acc → List Acc → Bool
  | 0, w, t => w.all fun a => t.all fun b => okPair a b && okPair b a
  | k + 1, w, t =>
    okAcross k (w.filter (·.field.testBit k)) (t.filter (·.field.testBit k)) &&
    okAcross k (w.filter (!·.field.testBit k)) (t.filter (!·.field.testBit k))

theorem okAcross_sound (k : Nat) : ∀ (w t : List Acc), okAcross k w t = true →
    ∀ a ∈ w, ∀ b ∈ t, a.field = b.field → okPair a b = true ∧ okPair b a = true := by
  induction k with
  | zero =>
    intro w t h a ha b hb _
    exact Bool.and_eq_true_iff.1 (List.all_eq_true.1 (List.all_eq_true.1 h a ha) b hb)
  | succ k ih =>
    intro w t h a ha b hb hf
    have h := Bool.and_eq_true_iff.1 h
    have hab : b.field.testBit k = a.field.testBit k := by rw [hf]
    cases hk : a.field.testBit k <;> rw [hk] at hab
    · exact ih _ _ h.2 a (List.mem_filter.2 ⟨ha, by simp [hk]⟩) b (List.mem_filter.2 ⟨hb, by simp [hab]⟩) hf
    · exact ih _ _ h.1 a (List.mem_filter.2 ⟨ha, hk⟩) b (List.mem_filter.2 ⟨hb, hab⟩) hf

theorem okPair_of_field_ne {a b : Acc} (h : a.field ≠ b.field) : okPair a b = true := by
  have : (a.field == b.field) = false := by simpa using h
  simp [okPair, conflict, this]

theorem okPair_of_reads {a b : Acc} (ha : a.write = false) (hb : b.write = false) : okPair a b = true := by
  simp [okPair, conflict, ha, hb]

/-- Only a pair of one field with a write in it can fail `okPair`: it is enough to go from the writes. -/
theorem raceFree_of_fast (k : Nat) {t : List Acc} (h : okAcross k (t.filter (·.write)) t = true) :
    raceFree t = true := by
  apply List.all_eq_true.2; intro a ha
  apply List.all_eq_true.2; intro b hb
  by_cases hf : a.field = b.field
  · cases hwa : a.write
    · cases hwb : b.write
      · exact okPair_of_reads hwa hwb
      · exact (okAcross_sound k _ t h b (List.mem_filter.2 ⟨hb, hwb⟩) a ha hf.symm).2
    · exact (okAcross_sound k _ t h a (List.mem_filter.2 ⟨ha, hwa⟩) b hb hf).1
  · exact okPair_of_field_ne hf

/-- **C10 (the table regenerated from the current source obeys the discipline).** -/
theorem C10_table_race_free : raceFree Vivid.Generated.accessTable = true :=
  -- `k`: the number of bits of a field id
  raceFree_of_fast (Vivid.Generated.accessFields.length.log2 + 1) (by decide +kernel)

/-- Non-vacuity: the table contains conflicting, concurrently executable pairs (so the
discipline is exercised), e.g. a write and a read of one field from `any`-role code. -/
theorem C10_table_has_conflicts :
    (Vivid.Generated.accessTable.any fun a => Vivid.Generated.accessTable.any fun b => conflict a b) = true := by
  -- a conflicting pair has a write in it and `conflict` is symmetric, so only the writes need a scan for a partner
  have h : (Vivid.Generated.accessTable.any fun a =>
      a.write && Vivid.Generated.accessTable.any fun b => conflict a b) = true := by decide +kernel
  obtain ⟨a, ha, h⟩ := List.any_eq_true.1 h
  exact List.any_eq_true.2 ⟨a, ha, (Bool.and_eq_true _ _ ▸ h).2⟩

/-- A table with an unprotected write is rejected (the check can fail). -/
example : raceFree [⟨0, true, false, [(1, true)], .any, 0⟩, ⟨0, false, false, [], .owner, 1⟩] = false := by decide

end Vivid.Access
