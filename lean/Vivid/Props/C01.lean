import Vivid.Proofs.MailboxNoSpin

/-!
# C01 — one handler at a time, every accepted message handled exactly once (by count), no lost wake-up

All theorems are about every reachable state of `Model/Mailbox.lean`: any number of concurrent
`Enqueue` (user and system), `Pause`, `Resume` calls and handlers that call them on their own
mailbox, in any interleaving of their atomic actions.  They hold for both re-arm decisions
(`fixed`), except `C01_no_spin` (repaired rule) and `C01_spin_witness_asis` (code as found).
-/
namespace Vivid.Mailbox

/-- The processing token: exactly one thread is between a successful `CAS(status)` and the
next `Store(status, idle)` when `status = processing`, none otherwise. -/
theorem C01_token (fixed : Bool) (s : St) (h : Reach fixed s) :
    holders s = if s.proc then 1 else 0 := by
  rw [holders_eq]; exact (inv_reach fixed s h).token

/-- At most one handler invocation is in progress at any instant. -/
theorem C01_single_handler (fixed : Bool) (s : St) (h : Reach fixed s) : inHandler s ≤ 1 := by
  have ht := C01_token fixed s h
  have : inHandler s ≤ holders s := by simp +arith only [inHandler, holders]
  split at ht <;> omega

/-- A handler's own `Enqueue`/`Resume` never starts a second processing goroutine. -/
theorem C01_no_nested_spawn (fixed : Bool) (s : St) (h : Reach fixed s) :
    s.c .hSpawn = 0 ∧ s.c .hRSpawn = 0 := (inv_reach fixed s h).nest

/-- Conservation (exactly once, by count): every accepted message has been handed to the
handler, or is still queued, or is in the processing goroutine's hand — never dropped,
never duplicated. -/
theorem C01_conservation (fixed : Bool) (s : St) (h : Reach fixed s) :
    s.accU = s.hndU + s.uq + s.c .cDecU + s.c .cHndU ∧
    s.accS = s.hndS + s.sq + s.c .cDecS + s.c .cHndS :=
  ⟨(inv_reach fixed s h).consU, (inv_reach fixed s h).consS⟩

/-- The counters lag the queues exactly by the threads between push and increment / pop and
decrement (this is what makes the re-arm decision sound). -/
theorem C01_counters (fixed : Bool) (s : St) (h : Reach fixed s) :
    s.num = (s.uq : Int) + s.c .cDecU - s.c .eU1 - s.c .hU1 ∧
    s.sys = (s.sq : Int) + s.c .cDecS - s.c .eS1 - s.c .hS1 :=
  ⟨(inv_reach fixed s h).cntU, (inv_reach fixed s h).cntS⟩

theorem Inv.quiescent {s : St} (hi : Inv s) (hq : Quiescent s) :
    s.sq = 0 ∧ s.accS = s.hndS ∧ s.accU = s.hndU + s.uq ∧ (s.paused = false → s.uq = 0) := by
  have hproc : s.proc = false := by
    have ht := hi.token
    rw [← holders_eq] at ht; unfold holders at ht; simp only [hq _] at ht
    cases hp : s.proc
    · rfl
    · rw [hp] at ht; cases ht
  have hS := hi.armedS hproc
  have hU := hi.armedU hproc
  have hcS := hi.consS
  have hcU := hi.consU
  simp only [hq _] at hS hU hcS hcU
  exact ⟨by omega, by omega, by omega, fun hz => by have := fun h => hU h hz; omega⟩

/-- No lost wake-up: when every call has returned and no processing goroutine is left, no
system message is queued, and — unless the mailbox is paused — no user message either:
everything accepted has been handed to the handler, *without needing any later send*. -/
theorem C01_no_lost_wakeup (fixed : Bool) (s : St) (h : Reach fixed s) (hq : Quiescent s) :
    s.sq = 0 ∧ s.hndS = s.accS ∧ (s.paused = false → s.uq = 0 ∧ s.hndU = s.accU) := by
  obtain ⟨h1, h2, h3, h4⟩ := (inv_reach fixed s h).quiescent hq
  exact ⟨h1, h2.symm, fun hz => ⟨h4 hz, by rw [h3, h4 hz, Nat.add_zero]⟩⟩

/-- At quiescence, paused or not, every accepted user message is either handled or still in the
queue (none lost), and all system messages were processed.  (That a paused mailbox hands out no
user message is `C02_paused_holds` on the actor-system model.) -/
theorem C01_paused_holds (fixed : Bool) (s : St) (h : Reach fixed s) (hq : Quiescent s) :
    s.accU = s.hndU + s.uq ∧ s.hndS = s.accS :=
  let ⟨_, h2, h3, _⟩ := (inv_reach fixed s h).quiescent hq
  ⟨h3, h2.symm⟩

/-! `demoTrace` (used by the example at the end of the file) reaches a state with two
producers mid-`Enqueue`, a paused mailbox, and a processing goroutine between `Store(idle)` and
`Load(num)`. -/

def demoTrace : List Label :=
  [.newPause, .pause, .newEnqU, .uPush, .uInc, .pCasWin, .pGo, .popSNone, .loadPPaused, .store,
   .newEnqU, .uPush, .newEnqS, .sPush]

def runLabels (fixed : Bool) : List Label → St → Option St
  | [], s => some s
  | l :: ls, s => match fire fixed l s with
    | some s' => runLabels fixed ls s'
    | none => none

theorem reach_runLabels (fixed : Bool) (ls : List Label) (s s' : St) (h : Reach fixed s)
    (e : runLabels fixed ls s = some s') : Reach fixed s' := by
  induction ls generalizing s with
  | nil => cases e; exact h
  | cons l ls ih =>
    rw [runLabels] at e
    split at e
    next s1 hs1 => exact ih s1 (.step l h hs1) e
    next => cases e

/-- A mailbox that has nothing it is allowed to process does no work: from any reachable
state in which only processing goroutines are left and nothing is processable (`Idle`), every
continuation that starts no new call has at most `phi` steps — every processing goroutine
leaves after at most one stale re-arm.  `phi` is a weighted count of the goroutines
(≤ 12 per goroutine). Holds for the repaired decision `system > 0 || (user > 0 && !paused)`. -/
theorem C01_no_spin (ls : List Label) : ∀ (s s' : St), Reach true s → Idle s →
    (∀ l ∈ ls, isNew l = false) → runLabels true ls s = some s' →
    ls.length ≤ phi (decide (s.uq = 0)) s.c := by
  induction ls with
  | nil => intro s s' _ _ _ _; exact Nat.zero_le _
  | cons l ls ih =>
    intro s s' hr hi hn e
    rw [runLabels] at e
    split at e
    next s1 hs1 =>
      have ⟨hi1, huq, hlt⟩ := idle_step hi (inv_reach true s hr) (hn l (List.mem_cons_self ..)) rfl hs1
      have := ih s1 s' (Reach.step l hr hs1) hi1 (fun x hx => hn x (List.mem_cons_of_mem _ hx)) e
      rw [huq] at this
      simp only [List.length_cons]
      omega
    next => cases e

/-- The state reached by `Pause(); Enqueue(user)` once the processing goroutine has started. -/
def spinState : St :=
  { uq := 1, sq := 0, num := 1, sys := 0, proc := true, paused := true,
    accU := 1, accS := 0, hndU := 0, hndS := 0, c := fun p => if p = .cStart then 1 else 0 }

def spinPrefix : List Label := [.newPause, .pause, .newEnqU, .uPush, .uInc, .pCasWin, .pGo]
def spinCycle : List Label := [.popSNone, .loadPPaused, .store, .loadNPos, .loadSyTNon, .reWin]

/- Both runs are evaluated: every guard on the way is decided, and the counter vectors agree at
each of the 30 program points.  `spinPrefix` never reaches the re-arm decision, so `fixed` is free. -/
theorem spin_prefix_any (fixed : Bool) : runLabels fixed spinPrefix init = some spinState :=
  congrArg (fun c : Pc → Nat => some ({ spinState with c := c } : St)) (funext (forall_allPcs (by decide +kernel)))

theorem spin_cycle : runLabels false spinCycle spinState = some spinState :=
  congrArg (fun c : Pc → Nat => some ({ spinState with c := c } : St)) (funext (forall_allPcs (by decide +kernel)))

theorem runLabels_append (fixed : Bool) (a b : List Label) (s : St) :
    runLabels fixed (a ++ b) s = (runLabels fixed a s).bind (runLabels fixed b) := by
  induction a generalizing s with
  | nil => rfl
  | cons l a ih =>
    simp only [List.cons_append, runLabels]
    split
    · exact ih _
    · rfl

def cycles : Nat → List Label
  | 0 => []
  | n + 1 => spinCycle ++ cycles n

/-- With the original decision `user > 0 || system > 0` the property is false: from the
reachable state `spinState` (paused, one user message queued, nobody else alive) the
processing goroutine can take arbitrarily many steps without handling anything. -/
theorem C01_spin_witness_asis :
    Reach false spinState ∧ spinState.sq = 0 ∧ spinState.paused = true ∧
    ∀ n, runLabels false (cycles n) spinState = some spinState ∧ (cycles n).length = 6 * n ∧
      (∀ l ∈ cycles n, isNew l = false) := by
  refine ⟨reach_runLabels false _ _ _ Reach.init (spin_prefix_any false), rfl, rfl, fun n => ?_⟩
  induction n with
  | zero => exact ⟨rfl, rfl, fun _ h => absurd h List.not_mem_nil⟩
  | succ n ih =>
    obtain ⟨h1, h2, h3⟩ := ih
    refine ⟨?_, ?_, List.forall_mem_append.2 ⟨by decide, h3⟩⟩
    · rw [cycles, runLabels_append, spin_cycle]; exact h1
    · rw [cycles, List.length_append, h2, Nat.mul_succ, Nat.add_comm]; rfl

/-- Towards non-vacuity of `C01_no_spin`: the same state is reachable under the repaired decision.  That it is
`Idle`, which is what the theorem asks besides, is stated nowhere. -/
theorem spin_prefix_fixed : runLabels true spinPrefix init = some spinState := spin_prefix_any true

example : ∃ s, Reach false s ∧ s.paused = true ∧ s.c .eU1 = 1 ∧ s.c .eS1 = 1 ∧ s.c .cLoadN = 1 ∧ s.uq = 2 := by
  exact ⟨_, reach_runLabels false demoTrace init _ Reach.init rfl, rfl, rfl, rfl, rfl, rfl⟩

end Vivid.Mailbox
