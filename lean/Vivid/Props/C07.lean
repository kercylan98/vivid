import Vivid.Model.SysFSM

/-!
# C07 — Start/Stop is a clean one-way state machine

The theorems are about every history of Start / Stop / cancel calls.  "Never hangs", "returns within
its timeout" and "no goroutine left behind" are runtime facts: observed by the `sysfsm` engine's
watchdog and goroutine census (partial).
-/
namespace Vivid.SysFSM

theorem C07_step_monotone (s : St) (o : Op) : rank s ≤ rank (step s o).1 := by
  cases s <;> cases o <;> decide

/-- The status never goes back, along any history. -/
theorem C07_one_way (ops : List Op) : ∀ s, rank s ≤ rank (run s ops).1 := by
  induction ops with
  | nil => exact fun s => Nat.le_refl _
  | cons o os ih => exact fun s => Nat.le_trans (C07_step_monotone s o) (ih _)

def countRet (r : Ret) (o : Op) : List Op → List Ret → Nat
  | p :: ps, x :: xs => (if p = o ∧ x = r then 1 else 0) + countRet r o ps xs
  | _, _ => 0

/-- `b` is a budget: answering `r` to `o` uses one unit up. -/
theorem countRet_le (r : Ret) (o : Op) (b : St → Nat)
    (hb : ∀ s p, (if p = o ∧ (step s p).2 = r then 1 else 0) + b (step s p).1 ≤ b s) (ops : List Op) :
    ∀ s, countRet r o ops (run s ops).2 ≤ b s := by
  induction ops with
  | nil => exact fun s => Nat.zero_le _
  | cons p ps ih => exact fun s => Nat.le_trans (Nat.add_le_add_left (ih _) _) (hb s p)

/-- Start returns nil at most once in any history, and only from `ready` (context cancelled or not). -/
theorem C07_start_once (ops : List Op) : ∀ s, countRet .ok .start ops (run s ops).2 ≤ (if s = .ready ∨ s = .readyCancelled then 1 else 0) :=
  countRet_le .ok .start _ (fun s p => by cases s <;> cases p <;> decide) ops

/-- Stop returns nil at most once in any history. -/
theorem C07_stop_once (ops : List Op) : ∀ s, countRet .ok .stop ops (run s ops).2 ≤ (if s = .stopped then 0 else 1) :=
  countRet_le .ok .stop _ (fun s p => by cases s <;> cases p <;> decide) ops

/-- Once stopped, every further Start or Stop answers already-stopped, whatever happened before. -/
theorem C07_after_stop (o : Op) (h : o ≠ .cancel) : (step .stopped o) = (.stopped, .alreadyStopped) := by
  cases o <;> simp_all [step]

/-- Cancelling the context of a started system has the effect of Stop on the status. -/
theorem C07_cancel_is_stop : (step .started .cancel).1 = (step .started .stop).1 := rfl

/-- Non-vacuity: a history hitting every answer. -/
example : (run .ready [.stop, .start, .start, .cancel, .stop, .start]).2 =
    [.notStarted, .ok, .alreadyStarted, .none, .alreadyStopped, .alreadyStopped] := by decide

end Vivid.SysFSM
