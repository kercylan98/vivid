import Vivid.Model.VVWire
import Vivid.Proofs.Codec

/-! # C16 — "a vector survives serialisation unchanged"

For **every** list of entries the writer accepts, reading the written bytes gives exactly those
entries back (names, counters, order) and consumes exactly the bytes written; and the writer accepts
every vector within the documented limits — in particular counters equal to the maximum 2^63-1,
explicit zeros, 256-byte addresses and 65535 entries — and nothing else (`encodeVV_isSome`). -/
namespace Vivid.VVWire
open Vivid.Codec

theorem unwire_wireV (es : Entries) : unwire (wireV es) = some es := by
  induction es with
  | nil => rfl
  | cons e t ih => simp [wireV, unwire, ih]

/-- Round trip, whatever follows the vector in the buffer. -/
theorem C16_wire_roundtrip (es : Entries) (bs rest : Bytes) (h : encodeVV es = some bs) :
    decodeVV (bs ++ rest) = .ok (es, rest) := by
  unfold decodeVV
  rw [roundtrip vvTy (wireV es) bs rest h]
  simp [unwire_wireV]

theorem vlen_wireV (es : Entries) : vlen (wireV es) = es.length := by
  induction es with
  | nil => rfl
  | cons e t ih => simp [wireV, vlen, ih]

/-- `entryOK` is the checks of rule 0 and `wellBytes`; within them the u32 length and the u64 counter always fit. -/
theorem encEntry_isSome (e : Bytes × Nat) :
    (enc (.chk 0 (.pair str .u64)) (.pair (.bytes e.1) (.n e.2))).isSome ↔ entryOK e := by
  by_cases hc : 0 < e.1.length ∧ e.1.length ≤ 256 ∧ e.2 ≤ 2 ^ 63 - 1
  · have hlen : e.1.length < 2 ^ 32 := Nat.lt_of_le_of_lt hc.2.1 (by decide)
    have hn : e.2 < 256 ^ 8 := Nat.lt_of_le_of_lt hc.2.2 (by decide)
    by_cases hw : wellBytes e.1 = true <;> simp [entryOK, enc, chkOk, hc, str, hlen, hw, encNat, hn]
  · have : ¬ entryOK e := fun h => hc ⟨h.1, h.2.1, h.2.2.2⟩
    simp [enc, chkOk, hc, this]

theorem encList_isSome (f : V → Option Bytes) (es : Entries) :
    (encList f (wireV es)).isSome ↔ ∀ e ∈ es, (f (.pair (.bytes e.1) (.n e.2))).isSome := by
  induction es with
  | nil => simp [wireV, encList]
  | cons e t ih =>
    simp only [wireV, encList, List.forall_mem_cons, ← ih]
    cases f (.pair (.bytes e.1) (.n e.2)) <;> cases encList f (wireV t) <;> simp

theorem encodeVV_isSome (es : Entries) :
    (encodeVV es).isSome ↔ es.length ≤ 65535 ∧ ∀ e ∈ es, entryOK e := by
  unfold encodeVV vvTy
  rw [enc_list_eq, vlen_wireV]
  by_cases hn : es.length ≤ 65535
  · have : es.length < 2 ^ 32 := Nat.lt_of_le_of_lt hn (by decide)
    simp only [this, capOk, hn, decide_true, if_true, Option.isSome_map, true_and,
      encList_isSome, encEntry_isSome]
  · simp [hn, capOk]

/-- Every vector within the limits is representable: the writer does not refuse it. -/
theorem C16_wire_representable (es : Entries) (hn : es.length ≤ 65535) (h : ∀ e ∈ es, entryOK e) :
    ∃ bs, encodeVV es = some bs :=
  Option.isSome_iff_exists.1 ((encodeVV_isSome es).2 ⟨hn, h⟩)

/-- Both together: within the limits, serialisation followed by deserialisation is the identity. -/
theorem C16_survives_serialisation (es : Entries) (rest : Bytes) (hn : es.length ≤ 65535)
    (h : ∀ e ∈ es, entryOK e) :
    ∃ bs, encodeVV es = some bs ∧ decodeVV (bs ++ rest) = .ok (es, rest) := by
  obtain ⟨bs, hb⟩ := C16_wire_representable es hn h
  exact ⟨bs, hb, C16_wire_roundtrip es bs rest hb⟩

/-- A counter above the maximum has no encoding in the model; the maximum itself has one (example
below).  In the Go code the guard sits in the reader. -/
theorem C16_wire_counter_guard (nm : Bytes) (c : Nat) (hc : 2 ^ 63 - 1 < c) : encodeVV [(nm, c)] = none :=
  Option.not_isSome_iff_eq_none.1 fun h =>
    Nat.not_le.2 hc (((encodeVV_isSome _).1 h).2 _ (List.mem_singleton_self _)).2.2.2

/-! Non-vacuity: the maximum counter, an explicit zero and a second node, round-tripped by evaluation. -/
example : entryOK ([97], 2 ^ 63 - 1) ∧ entryOK ([98], 0) := by simp [entryOK, wellBytes]
example : decodeVV ((encodeVV [([97], 2 ^ 63 - 1), ([98], 0)]).getD [] ++ [7]) = .ok ([([97], 2 ^ 63 - 1), ([98], 0)], [7]) := by
  decide +kernel

end Vivid.VVWire
