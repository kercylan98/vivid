import Vivid.Proofs.VersionVector

/-!
# C16 — version vectors form a lattice

All theorems are for *every* pair/triple of well-formed vectors (`WF` =
the keys of the Go map are distinct, which a Go map guarantees), over any key set, with
any counters, including explicit-zero entries (`[("a",0)]` vs `[]`).
-/
namespace Vivid.VV

/-- `Compare` decides the component-wise order, whatever the iteration order of the maps. -/
theorem C16_compare_spec (a b : VV) (ha : WF a) (hb : WF b) :
    (compare a b = .equal ↔ (leq a b ∧ leq b a)) ∧
    (compare a b = .before ↔ (leq a b ∧ ¬ leq b a)) ∧
    (compare a b = .after ↔ (¬ leq a b ∧ leq b a)) ∧
    (compare a b = .concurrent ↔ (¬ leq a b ∧ ¬ leq b a)) :=
  compare_spec a b ha hb

theorem leq_refl (a : VV) : leq a a := fun _ => Nat.le_refl _
theorem leq_trans {a b c : VV} (h1 : leq a b) (h2 : leq b c) : leq a c :=
  fun k => Nat.le_trans (h1 k) (h2 k)

theorem C16_refl (a : VV) (ha : WF a) : compare a a = .equal :=
  (compare_spec a a ha ha).1.mpr ⟨leq_refl a, leq_refl a⟩

/-- Antisymmetry, extensionally: `Equal` means every component agrees (this is all `Compare`
or `Get` can observe; `{a:0}` and `{}` are `Equal`). -/
theorem C16_antisymm (a b : VV) (ha : WF a) (hb : WF b) :
    compare a b = .equal ↔ ∀ k, get a k = get b k := by
  rw [(compare_spec a b ha hb).1]
  constructor
  · intro ⟨h1, h2⟩ k; exact Nat.le_antisymm (h1 k) (h2 k)
  · intro h; exact ⟨fun k => Nat.le_of_eq (h k), fun k => Nat.le_of_eq (h k).symm⟩

theorem C16_before_asymm (a b : VV) (ha : WF a) (hb : WF b) :
    compare a b = .before → compare b a ≠ .before := by
  intro h h'
  have h1 := (compare_spec a b ha hb).2.1.mp h
  have h2 := (compare_spec b a hb ha).2.1.mp h'
  exact h1.2 h2.1

theorem C16_converse (a b : VV) (ha : WF a) (hb : WF b) :
    compare a b = .before ↔ compare b a = .after := by
  rw [(compare_spec a b ha hb).2.1, (compare_spec b a hb ha).2.2.1]
  exact And.comm

theorem C16_equal_symm (a b : VV) (ha : WF a) (hb : WF b) :
    compare a b = .equal ↔ compare b a = .equal := by
  rw [(compare_spec a b ha hb).1, (compare_spec b a hb ha).1]
  exact And.comm

theorem C16_concurrent_symm (a b : VV) (ha : WF a) (hb : WF b) :
    compare a b = .concurrent ↔ compare b a = .concurrent := by
  rw [(compare_spec a b ha hb).2.2.2, (compare_spec b a hb ha).2.2.2]
  exact And.comm

def le (a b : VV) : Prop := compare a b = .before ∨ compare a b = .equal

theorem le_iff_leq {a b : VV} (ha : WF a) (hb : WF b) : le a b ↔ leq a b := by
  unfold le
  rw [(compare_spec a b ha hb).1, (compare_spec a b ha hb).2.1]
  constructor
  · rintro (h | h) <;> exact h.1
  · intro h
    by_cases h2 : leq b a
    · exact Or.inr ⟨h, h2⟩
    · exact Or.inl ⟨h, h2⟩

theorem C16_trans (a b c : VV) (ha : WF a) (hb : WF b) (hc : WF c) :
    le a b → le b c → le a c := by
  rw [le_iff_leq ha hb, le_iff_leq hb hc, le_iff_leq ha hc]
  exact leq_trans

/-- Strict transitivity: `Before` followed by `Before`/`Equal` is `Before` (preceded by them: `C16_trans_strict_right`). -/
theorem C16_trans_strict (a b c : VV) (ha : WF a) (hb : WF b) (hc : WF c) :
    compare a b = .before → le b c → compare a c = .before := by
  rw [(compare_spec a b ha hb).2.1, le_iff_leq hb hc, (compare_spec a c ha hc).2.1]
  exact fun ⟨l1, n1⟩ l2 => ⟨leq_trans l1 l2, fun l3 => n1 (leq_trans l2 l3)⟩

theorem C16_trans_strict_right (a b c : VV) (ha : WF a) (hb : WF b) (hc : WF c) :
    le a b → compare b c = .before → compare a c = .before := by
  rw [le_iff_leq ha hb, (compare_spec b c hb hc).2.1, (compare_spec a c ha hc).2.1]
  exact fun l1 ⟨l2, n2⟩ => ⟨leq_trans l1 l2, fun l3 => n2 (leq_trans l3 l1)⟩

/-! ## Merge is the join

`merge_get` and `Compare` deciding the pointwise order (`C16_antisymm`, `le_iff_leq`) turn each law into the law
of `max` on `Nat`. -/

theorem C16_merge_get (a b : VV) (hb : WF b) (k : Node) :
    get (merge a b) k = max (get a k) (get b k) := merge_get a b hb k

theorem C16_merge_wf (a b : VV) (ha : WF a) (hb : WF b) : WF (merge a b) := merge_wf ha hb

theorem C16_merge_comm (a b : VV) (ha : WF a) (hb : WF b) :
    compare (merge a b) (merge b a) = .equal :=
  (C16_antisymm _ _ (merge_wf ha hb) (merge_wf hb ha)).2 fun k => by
    rw [merge_get a b hb, merge_get b a ha, Nat.max_comm]

theorem C16_merge_assoc (a b c : VV) (ha : WF a) (hb : WF b) (hc : WF c) :
    compare (merge (merge a b) c) (merge a (merge b c)) = .equal :=
  have hab := merge_wf ha hb
  have hbc := merge_wf hb hc
  (C16_antisymm _ _ (merge_wf hab hc) (merge_wf ha hbc)).2 fun k => by
    rw [merge_get _ c hc, merge_get a b hb, merge_get a _ hbc, merge_get b c hc, Nat.max_assoc]

theorem C16_merge_idem (a : VV) (ha : WF a) : compare (merge a a) a = .equal :=
  (C16_antisymm _ _ (merge_wf ha ha) ha).2 fun k => by rw [merge_get a a ha, Nat.max_self]

/-- Upper bound: the merge is never `Before` (nor `Concurrent` with) either argument. -/
theorem C16_merge_upper (a b : VV) (ha : WF a) (hb : WF b) :
    le a (merge a b) ∧ le b (merge a b) := by
  have hm := merge_wf ha hb
  rw [le_iff_leq ha hm, le_iff_leq hb hm]
  exact ⟨fun k => merge_get a b hb k ▸ Nat.le_max_left _ _, fun k => merge_get a b hb k ▸ Nat.le_max_right _ _⟩

/-- Least: anything above both arguments is above the merge. -/
theorem C16_merge_lub (a b c : VV) (ha : WF a) (hb : WF b) (hc : WF c) :
    le a c → le b c → le (merge a b) c := by
  rw [le_iff_leq ha hc, le_iff_leq hb hc, le_iff_leq (merge_wf ha hb) hc]
  exact fun h1 h2 k => merge_get a b hb k ▸ Nat.max_le.2 ⟨h1 k, h2 k⟩

theorem increment_ok_iff (a : VV) (n : Node) (a' : VV) :
    increment a n = .ok a' ↔
      validAddr n = true ∧ get a n < maxCounter ∧ a' = set a n (get a n + 1) := by
  unfold increment
  cases validAddr n
  · simp
  · by_cases h : get a n ≥ maxCounter
    · simp [h, Nat.not_lt.2 h]
    · simp [h, Nat.not_le.1 h, eq_comm]

theorem C16_increment_spec (a : VV) (n : Node) (a' : VV) (h : increment a n = .ok a') :
    get a' n = get a n + 1 ∧ (∀ k, k ≠ n → get a' k = get a k) ∧ get a n < maxCounter := by
  obtain ⟨_, hlt, rfl⟩ := (increment_ok_iff a n a').1 h
  exact ⟨by rw [get_set, if_pos rfl], fun k hk => by rw [get_set, if_neg (Ne.symm hk)], hlt⟩

theorem C16_increment_wf (a : VV) (n : Node) (a' : VV) (ha : WF a) (h : increment a n = .ok a') :
    WF a' := by
  obtain ⟨_, _, rfl⟩ := (increment_ok_iff a n a').1 h
  exact wf_set ha

/-- `Increment` yields a vector strictly `After` its input. -/
theorem C16_increment_after (a : VV) (n : Node) (a' : VV) (ha : WF a)
    (h : increment a n = .ok a') : compare a' a = .after := by
  have ⟨h1, h2, _⟩ := C16_increment_spec a n a' h
  refine (compare_spec a' a (C16_increment_wf a n a' ha h) ha).2.2.1.mpr ⟨fun hl => ?_, fun k => ?_⟩
  · have := hl n; omega
  · by_cases hk : k = n
    · subst hk; omega
    · exact Nat.le_of_eq (h2 k hk).symm

/-- `Increment` fails exactly on an invalid address or at the maximum counter. -/
theorem C16_increment_total (a : VV) (n : Node) :
    (∃ a', increment a n = .ok a') ↔ (validAddr n = true ∧ get a n < maxCounter) := by
  simp only [increment_ok_iff]
  exact ⟨fun ⟨_, h1, h2, _⟩ => ⟨h1, h2⟩, fun ⟨h1, h2⟩ => ⟨_, h1, h2, rfl⟩⟩

/-! ## Non-vacuity: concrete well-formed vectors hitting every `Compare` outcome,
explicit zero vs absent, and the overflow guard. -/

example : WF [("a", 1), ("b", 0)] ∧ WF [("b", 2)] := by simp [WF, keys]
example : compare [("a", 1), ("b", 0)] [("b", 2)] = .concurrent := by decide
example : compare [("a", 0)] [] = .equal := by decide
example : compare [] [("b", 2)] = .before := by decide
example : compare [("a", 3), ("b", 2)] [("b", 2)] = .after := by decide
example (c : Nat) (h : c ≥ maxCounter) : increment [("a", c)] "a" = .error .overflow := by
  have hv : validAddr "a" = true := by decide
  simp [increment, hv, get, h]
example : increment [("a", 1)] "" = .error .invalidAddr := by simp [increment, validAddr]

end Vivid.VV
