import Vivid.Props.C03Global

/-!
# C03 — exactly one place, over every execution of M10

`total i s` counts the envelopes that carry user message `i` in all mailboxes and stashes plus the
occurrences of `i` on the published dead-letter list.  `runE` is `run` with a ghost record of what
happened to each message a mailbox handed to `HandleEnvelop`: `processed` (as in `Props/C03Global.lean`: the
behaviour of an actor was run on it, and here: did not stash it), `zombie`, `dropped` (after the root stopped),
and `dup` — one entry for every *additional* copy user code made by calling `Stash` more than
once on the same message in one handler run (stashing an envelope twice duplicates it by design).
-/
namespace Vivid.ActorSys

structure GhostE where
  processed : List Nat
  zombie : List Nat
  dropped : List Nat
  dup : List Nat
  deriving Repr

/-- Stash calls of the rule the current behaviour of `c` has for user payload `k`. -/
def stashOf (s0 : Sys) (c : Cid) (k : Nat) : Nat :=
  stashCount (ruleFor ((s0.scripts.lookup ((s0.ctx c).behaviors.headD (s0.ctx c).script)).getD []) (100 + k))

/-- What is appended to the ghost record when `HandleEnvelop` of `c` is given `e` in state `s0`. -/
def deltaE (s0 : Sys) (c : Cid) (e : Env) : GhostE :=
  match carried e with
  | none => ⟨[], [], [], []⟩
  | some j =>
    if ((s0.ctx c).state = .killed ∨ (!e.sys ∧ (s0.ctx c).state ≠ .running)) ∧ !(s0.ctx c).zombie then
      match e.msg with
      | .deadLetter _ _ _ => ⟨[], [], [j], []⟩
      | _ => ⟨[], [], [], []⟩
    else if (s0.ctx c).zombie then ⟨[], [j], [], []⟩
    else
      match e.msg with
      | .user k =>
        if c = 0 then ⟨[j], [], [], []⟩
        else if stashOf s0 c k = 0 then ⟨[j], [], [], []⟩
        else ⟨[], [], [], List.replicate (stashOf s0 c k - 1) j⟩
      | _ => if c = 0 then ⟨[], [], [], []⟩ else ⟨[], [], [j], []⟩

def GhostE.app (g d : GhostE) : GhostE :=
  ⟨g.processed ++ d.processed, g.zombie ++ d.zombie, g.dropped ++ d.dropped, g.dup ++ d.dup⟩

def stepE (sg : Sys × GhostE) (o : Op) : Sys × GhostE :=
  match o with
  | .deliver c =>
    match nextMail (sg.1.ctx c) with
    | none => sg
    | some e => (handle (popMail sg.1 c) c e, sg.2.app (deltaE (popMail sg.1 c) c e))
  | o => (applyOp sg.1 o, sg.2)

def runE (fixedLaunch : Bool) (ops : List Op) : Sys × GhostE :=
  ops.foldl stepE (init fixedLaunch, ⟨[], [], [], []⟩)

theorem stepE_state (sg : Sys × GhostE) (o : Op) : (stepE sg o).1 = applyOp sg.1 o := by
  cases o with
  | deliver c =>
    simp only [stepE, applyOp, deliver_eq]
    cases nextMail (sg.1.ctx c) <;> rfl
  | _ => rfl

theorem C03_runE_state (fixedLaunch : Bool) (ops : List Op) : (runE fixedLaunch ops).1 = run fixedLaunch ops :=
  foldl_st stepE (·.1) stepE_state ops _

def validId (s : Sys) (i : Nat) : Nat := if 1 ≤ i ∧ i < s.nextEnv then 1 else 0

def InvE (sg : Sys × GhostE) : Prop :=
  Valid sg.1 ∧ 1 ≤ sg.1.nextEnv ∧
  ∀ i, total i sg.1 + sg.2.processed.count i + sg.2.zombie.count i + sg.2.dropped.count i = validId sg.1 i + sg.2.dup.count i

theorem validId_step {s s' : Sys} (h1 : 1 ≤ s.nextEnv) (h2 : s.nextEnv ≤ s'.nextEnv) (i : Nat) :
    validId s' i = validId s i + freshI s s' i := interval_add h1 h2 i

/-- The rows of `deltaE`: the message `j` the envelope carries is entered `p`, `z`, `d`, `u` times on the four lists.
Copies made by the handler and entries on the first three together exceed the recorded duplicates by one: the
popped copy. -/
theorem deltaE_row (s0 : Sys) (c : Cid) {e : Env} {j : Nat} (hj : carried e = some j) :
    ∃ p z d u, deltaE s0 c e = ⟨.replicate p j, .replicate z j, .replicate d j, .replicate u j⟩ ∧
      handleN s0 c e + p + z + d = 1 + u := by
  obtain ⟨id, sys, sender, msg⟩ := e
  unfold deltaE handleN behN
  rw [hj]
  dsimp only
  by_cases hd : Undeliverable (s0.ctx c) sys
  · -- undeliverable: a notice is dropped, anything else goes to the root as a notice
    rw [if_pos hd, if_pos hd]
    cases msg with
    | deadLetter x u d => exact ⟨0, 0, 1, 0, rfl, rfl⟩
    | user k => exact ⟨0, 0, 0, 0, rfl, rfl⟩
    | _ => cases hj
  rw [if_neg hd, if_neg hd]
  by_cases hz : (s0.ctx c).zombie = true
  · rw [if_pos hz, if_pos hz]; exact ⟨0, 1, 0, 0, rfl, rfl⟩
  rw [if_neg hz, if_neg hz]
  cases msg with
  | user k =>
    dsimp only [isDL, triggerOf]
    by_cases hc : c = 0
    · rw [if_pos hc, if_pos hc]; exact ⟨1, 0, 0, 0, rfl, rfl⟩
    rw [if_neg hc, if_neg hc]
    -- at an actor: processed, unless stashed; every stash call after the first is a duplicate
    change ∃ p z d u, _ ∧ stashOf s0 c k + p + z + d = 1 + u
    by_cases hs : stashOf s0 c k = 0
    · rw [if_pos hs, hs]; exact ⟨1, 0, 0, 0, rfl, rfl⟩
    · rw [if_neg hs]; exact ⟨0, 0, 0, stashOf s0 c k - 1, rfl, by omega⟩
  | deadLetter x u d =>
    -- the root publishes the notice (a copy); anybody else drops it
    dsimp only [isDL, triggerOf]
    by_cases hc : c = 0
    · rw [if_pos hc, if_pos hc]; exact ⟨0, 0, 0, 0, rfl, rfl⟩
    · rw [if_neg hc, if_neg hc]; exact ⟨0, 0, 1, 0, rfl, rfl⟩
  | _ => cases hj

theorem balance (s0 : Sys) (c : Cid) (e : Env) (i : Nat) :
    times e (handleN s0 c e) i + (deltaE s0 c e).processed.count i + (deltaE s0 c e).zombie.count i + (deltaE s0 c e).dropped.count i =
      times e 1 i + (deltaE s0 c e).dup.count i := by
  unfold times
  cases hj : carried e with
  | none =>
    have hi : ¬ carries i e = true := fun h => by rw [(carries_iff_carried i e).mp h] at hj; cases hj
    simp only [deltaE, hj, if_neg hi, List.count_nil]
  | some j =>
    obtain ⟨p, z, d, u, h, hn⟩ := deltaE_row s0 c hj
    have hc : carries i e = true ↔ j = i := by rw [carries_iff_carried, hj, Option.some.injEq]
    simp only [h, List.count_replicate, beq_iff_eq, hc]
    split <;> omega

theorem invE_step (sg : Sys × GhostE) (o : Op) (hi : InvE sg) (hok : opOK sg.1 o) : InvE (stepE sg o) := by
  obtain ⟨s, g⟩ := sg
  obtain ⟨hv, h1, hall⟩ := hi
  simp only at hv h1 hall hok
  have outside : (∀ c, o ≠ .deliver c) → InvE (applyOp s o, g) := fun hnd => by
    have ha := acct_applyOp o hv hok hnd
    refine ⟨ha.valid, Nat.le_trans h1 ha.next_le, fun i => ?_⟩
    have := ha.cnt i
    have := validId_step h1 ha.next_le i
    have := hall i
    simp only at *
    omega
  cases o with
  | deliver c =>
    simp only [stepE]
    cases hnm : nextMail (s.ctx c) with
    | none => exact ⟨hv, h1, hall⟩
    | some e =>
      obtain ⟨hv', hnx, hcnt⟩ := acct_deliver hv hnm
      refine ⟨hv', Nat.le_trans h1 hnx, fun i => ?_⟩
      simp only [GhostE.app, List.count_append]
      have := hcnt i
      have := balance (popMail s c) c e i
      have := validId_step h1 hnx i
      have := hall i
      omega
  | _ => exact outside (fun c h => by cases h)

theorem invE_run (ops : List Op) : ∀ sg : Sys × GhostE, InvE sg → WF sg.1 ops → InvE (ops.foldl stepE sg) :=
  foldl_inv stepE (·.1) stepE_state InvE invE_step ops

theorem total_init (f : Bool) (i : Nat) : total i (init f) = 0 := rfl

theorem invE_init (f : Bool) : InvE (init f, ⟨[], [], [], []⟩) := by
  refine ⟨valid_init f, Nat.le_refl _, fun i => ?_⟩
  rw [total_init]
  show 0 + 0 + 0 + 0 = (if 1 ≤ i ∧ i < 1 then 1 else 0) + 0
  rw [if_neg (by omega)]

/-- **C03, exactly.**  In every reachable state, for every id: the copies held in mailboxes and
stashes, the publications, and the recorded fates add up to exactly one per message ever sent —
plus one per additional `Stash` call user code made on that message in one handler run. -/
theorem C03_exact_account (fixedLaunch : Bool) (ops : List Op) (hwf : WF (init fixedLaunch) ops) (i : Nat) :
    total i (runE fixedLaunch ops).1 + (runE fixedLaunch ops).2.processed.count i +
      (runE fixedLaunch ops).2.zombie.count i + (runE fixedLaunch ops).2.dropped.count i =
    validId (runE fixedLaunch ops).1 i + (runE fixedLaunch ops).2.dup.count i :=
  (invE_run ops _ (invE_init fixedLaunch) hwf).2.2 i

/-- A message that user code never double-stashed is in **exactly one** place: one mailbox/stash
slot (as itself or as its dead-letter notice), or published exactly once, or processed /
zombie-consumed / dropped exactly once — and an id never handed out is nowhere. -/
theorem C03_exactly_one_place (fixedLaunch : Bool) (ops : List Op) (hwf : WF (init fixedLaunch) ops) (i : Nat)
    (hnd : i ∉ (runE fixedLaunch ops).2.dup) :
    total i (runE fixedLaunch ops).1 + (runE fixedLaunch ops).2.processed.count i +
      (runE fixedLaunch ops).2.zombie.count i + (runE fixedLaunch ops).2.dropped.count i =
    (if 1 ≤ i ∧ i < (runE fixedLaunch ops).1.nextEnv then 1 else 0) := by
  have h := C03_exact_account fixedLaunch ops hwf i
  rw [List.count_eq_zero_of_not_mem hnd] at h
  exact h

/-- A message is published as a dead letter at most once (unless user code duplicated it). -/
theorem C03_published_at_most_once (fixedLaunch : Bool) (ops : List Op) (hwf : WF (init fixedLaunch) ops) (i : Nat)
    (hnd : i ∉ (runE fixedLaunch ops).2.dup) : (runE fixedLaunch ops).1.deadLetters.count i ≤ 1 := by
  have h := C03_exactly_one_place fixedLaunch ops hwf i hnd
  have : (runE fixedLaunch ops).1.deadLetters.count i ≤ total i (runE fixedLaunch ops).1 := by
    unfold total; omega
  split at h <;> omega

/-- Non-vacuity: the run of `C03Global`'s example — message 1 stashed (held once), message 2
processed, message 3 dead-lettered and published once; and a double stash is recorded as a duplicate. -/
example :
    let r := runE true [.setScript 1 [(101, [.stash])], .spawn "a" 1 0 0 [], .deliver 1,
      .tell (.own 1) 1, .tell (.own 1) 2, .deliver 1, .deliver 1, .kill (.own 1) false, .tell (.own 1) 3,
      .deliver 1, .deliver 1, .deliver 0, .deliver 0]
    r.2.processed = [2] ∧ r.2.dup = [] ∧ r.1.deadLetters = [3] ∧ total 1 r.1 = 1 ∧ total 2 r.1 = 0 ∧ total 3 r.1 = 1 := by
  decide

example :
    let r := runE true [.setScript 1 [(101, [.stash, .stash])], .spawn "a" 1 0 0 [], .deliver 1,
      .tell (.own 1) 1, .deliver 1]
    r.2.dup = [1] ∧ total 1 r.1 = 2 := by
  decide

end Vivid.ActorSys
