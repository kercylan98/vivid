import Vivid.Proofs.ActorSysStruct

/-!
# C08 — a supervision decision touches at most its targets

* `C08_supervise_only_sends`: handling a supervision request changes nobody's lifecycle fields
  (state, zombie, restart flag, children, parent, path) — the decision is *sent*, as directives;
* `C08_supervise_touches_only_targets`: every context other than the supervisor, its parent (the
  escalation address), the decision's targets and the targets recorded along the escalation
  chain is left completely unchanged — not a queue entry, not a flag: "and to no other actor".
-/
namespace Vivid.ActorSys

theorem tellAll_other {ts : List Cid} {s : Sys} {sys : Bool} {sender : Option Cid} {d : Cid} {m : Msg} (h : d ∉ ts) :
    (tellAll s sys sender ts m).ctx d = s.ctx d :=
  List.foldlRecOn (motive := fun x : Sys => x.ctx d = s.ctx d) ts _ rfl fun x hx t ht => by
    rw [tell_own]; exact (upd_ctx_other fun hd : d = t => h (hd ▸ ht)).trans hx

theorem C08_supervise_only_sends (s : Sys) (self : Cid) (chain : List (Cid × List Cid)) (c : Cid) :
    life ((onSuperviseDecide s self chain).ctx c) = life (s.ctx c) := by
  rcases onSuperviseDecide_shape s self chain with hf | ⟨s1, hf, hf2⟩
  · exact hf.sameS.2 c
  · exact (Agree.trans (Agree.trans hf.sameS (agree_upd s1 self _)) hf2.sameS).2 c

def affected (s : Sys) (self : Cid) (chain : List (Cid × List Cid)) : List Cid :=
  let c := s.ctx self
  let failedChild := match chain with | (f, _) :: _ => f | [] => self
  let targets := if c.strat = 0 ∨ c.strat = 1 then [failedChild] else c.children
  let chain' : List (Cid × List Cid) := match chain with
    | (f, _) :: rest => (f, targets) :: rest
    | [] => []
  self :: (match c.parent with | some p => [p] | none => [0]) ++ targets ++ (chain'.map (·.2)).flatten

theorem fr_say {a x : Sys} {d : Cid} (e : String) (h : x.ctx d = a.ctx d) : (say x e).ctx d = a.ctx d := h

theorem tell_up_other {s : Sys} {sys : Bool} {sender : Option Cid} {x : Ctx} {m : Msg} {d : Cid} (h : d ≠ x.parent.getD 0) :
    (tell s sys sender (upTarget x) m).ctx d = s.ctx d := by
  rw [tell_up]; exact upd_ctx_other h

theorem directive_other {s : Sys} {self : Cid} {decision : Nat} {targets allT : List Cid}
    {chain' : List (Cid × List Cid)} {up : Target} {d : Cid} (hs : d ≠ self) (ht : d ∉ targets) (ha : d ∉ allT)
    (hu : ∀ x m, (tell x true (some self) up m).ctx d = x.ctx d) :
    (directive s self decision targets allT chain' up).ctx d = s.ctx d := by
  have pause : (tellAll s true (some self) targets .cmdPause).ctx d = s.ctx d := tellAll_other ht
  exact directive_cases (P := fun y => y.ctx d = s.ctx d) s self decision targets allT chain' up
    (fun _ _ => by rw [tellAll_other ht, pause])
    (fun _ _ => by rw [tellAll_other ha, tellAll_other ht, pause])
    (fun _ => by rw [tellAll_other ha, pause])
    (fun _ => by rw [hu, upd_ctx_other hs, pause])

theorem C08_supervise_touches_only_targets (s : Sys) (self : Cid) (chain : List (Cid × List Cid)) (d : Cid)
    (hd : d ∉ affected s self chain) : (onSuperviseDecide s self chain).ctx d = s.ctx d := by
  -- `affected` lists what `directive` is given: `self`, the escalation address, the targets, the chain's targets
  have hd : d ∉ self :: (match (s.ctx self).parent with | some p => [p] | none => [0]) ++
      targetsOf s self (failedOf self chain) ++ ((rechain (targetsOf s self (failedOf self chain)) chain).map (·.2)).flatten := by
    cases chain <;> exact hd
  simp only [List.cons_append, List.mem_cons, List.mem_append, not_or] at hd
  obtain ⟨hs, ⟨hp, ht⟩, ha⟩ := hd
  have hp : d ≠ (s.ctx self).parent.getD 0 := by cases h : (s.ctx self).parent <;> simpa [h] using hp
  rw [onSuperviseDecide_eq, directive_other hs ht ha fun _ _ => tell_up_other hp, say_ctx]
  split
  · rfl
  · exact upd_ctx_other hs

end Vivid.ActorSys
