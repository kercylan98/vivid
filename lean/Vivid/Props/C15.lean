import Vivid.Model.Transparency
import Vivid.Props.C12

/-!
# C15 — location transparency

* `C15_transparent`: for every operation, target location and forwarder location, what is
  observed equals the operation's specification (which does not mention locations).
* `C15_wire_has_schema` / `C15_wire_roundtrip`: every built-in message those operations put on
  the wire, `PipeResult` apart, has a schema, and (C12) comes back unchanged for every representable
  value — including `OnKill` / `OnKilled`, whose references travel as (address, path).
* `C15_pipe_result_roundtrip`: the `PipeResult` payload round-trips for every nested message,
  including the nil message of a failed pipe.
* `C15_not_transparent_as_found`: with the registry as found, remote Kill and remote Watch have
  no effect (the defect, repaired in /repo).
-/
namespace Vivid.Transparency
open Vivid.Codec

/-- One table look-up per clause of `wire`. -/
theorem wire_transmits (op : Op) (t f : Loc) : (wire op t f).all (transmits false) = true := by
  unfold wire; split <;> decide +kernel

/-- `observe` is `effect` by definition once everything on the wire transmits. -/
theorem C15_transparent (op : Op) (t f : Loc) : observe false op t f = effect op :=
  if_pos (wire_transmits op t f)

theorem C15_wire_has_schema (op : Op) (t f : Loc) (n : String) (h : n ∈ wire op t f)
    (hp : n ≠ "PipeResult") : (schemaOf none n).isSome = true := by
  have := List.all_eq_true.1 (wire_transmits op t f) n h
  simpa [transmits, hp] using this

theorem C15_wire_roundtrip (op : Op) (t f : Loc) (n : String) (_h : n ∈ wire op t f)
    (v : V) (bs rest : Bytes) (known : List String)
    (hk : known.find? (fun k => nameBytes k = nameBytes n) = some n)
    (he : encMessage none n v = some bs) :
    ∃ al, decMessage none known (bs ++ rest) = .ok (nameBytes n) v al rest :=
  C12_message_roundtrip none n v bs rest known hk he

theorem C15_pipe_result_roundtrip (v : V) (bs rest : Bytes) (h : enc pipeResultTy v = some bs) :
    dec pipeResultTy (bs ++ rest) = .ok (v, rest) :=
  roundtrip pipeResultTy v bs rest h

/-- The failed pipe: nil message (`<nil>`, empty body), id, code, text — representable. -/
example : (enc pipeResultTy (.pair (.bytes []) (.pair (.bytes [60, 110, 105, 108, 62])
    (.pair (.bytes [112, 49]) (.pair (.i 1001) (.bytes [116, 105, 109, 101, 111, 117, 116])))))).isSome = true := by
  decide +kernel

theorem C15_not_transparent_as_found :
    observe true .kill .there .here ≠ effect .kill ∧ observe true .watch .there .here ≠ effect .watch := by
  decide +kernel

end Vivid.Transparency
