import Vivid.Proofs.ActorSys

/-!
# C05 — lifecycle order per incarnation (handler-level theorems about M10)

Proved: a spawned actor's first queued message is its OnLaunch and it has no user mail before
it; a failing Prelaunch leaves no trace; a successful restart sends the new incarnation's
OnLaunch to the restarted actor itself (repaired variant) — and to its parent in the code as
found (witness); the behaviour stack is reset.  The trace-level statements (nothing after the
own OnKilled, OnKill before it, for every reachable state) are checked by the lock-step
`seen` log and the harness's lifecycle monitor, not proved as global invariants.
-/
namespace Vivid.ActorSys

/-- `ActorOf` with a failing `OnPrelaunch` (hook bit 4): no context, nothing registered, nothing queued. -/
theorem C05_prelaunch_fail (s : Sys) (parent : Cid) (name : String) (script strat hooks : Nat) (ds : List Nat)
    (hp : (s.ctx parent).state ≠ .killed) (hh : hooks % 32 ≥ 16) :
    (actorOf s parent name script strat hooks ds).n = s.n ∧
    (actorOf s parent name script strat hooks ds).registry = s.registry ∧
    (actorOf s parent name script strat hooks ds).ctx = s.ctx := by
  unfold actorOf
  simp only [hp, if_false, hh, if_true]
  exact ⟨rfl, rfl, rfl⟩

/-- An actor successfully spawned by a running parent: registered under its path, running, with exactly one queued
system message — its OnLaunch — and no user mail.  (A parent that is stopping puts its immediate kill behind the
OnLaunch: not stated.) -/
theorem C05_spawn_launch_first (s : Sys) (parent : Cid) (name : String) (script strat hooks : Nat) (ds : List Nat)
    (hp : (s.ctx parent).state = .running) (hh : hooks % 32 < 16)
    (hfree : s.registry.lookup (joinPath (s.ctx parent).path name) = none) (hne : parent ≠ s.n) :
    let s' := actorOf s parent name script strat hooks ds
    s'.n = s.n + 1 ∧ (s'.ctx s.n).state = .running ∧ (s'.ctx s.n).userQ = [] ∧
    (s'.ctx s.n).sysQ = [{ id := 0, sys := true, sender := some parent, msg := .onLaunch }] ∧
    s'.registry.lookup (joinPath (s.ctx parent).path name) = some s.n := by
  simp only [actorOf, hp, reduceCtorEq, Nat.not_le.2 hh, if_false, hfree]
  simp [tell, resolve, enqueue, upd, say, Ne.symm hne, blankCtx]

/-- Repaired variant: a successful restart *runs* the new incarnation's OnLaunch on the restarted
actor itself, at the end of the restart.  The other conjuncts describe `relaunchState`, the state
in which that handler starts: the restart itself has enqueued nothing anywhere, so no message
that is already queued (a second RestartMessage, an OnKill from a concurrent decision, user mail)
reaches the new incarnation before its OnLaunch, and nobody else is sent one. -/
theorem C05_restart_launch_self (s : Sys) (c : Cid) (hf : s.fixedLaunch = true)
    (hh : (s.ctx c).hooks / 4 % 2 = 0 ∧ (s.ctx c).hooks / 2 % 2 = 0) :
    handleRestart s c =
      execRecover (relaunchState s c) c (s.ctx c).script { id := 0, sys := true, sender := some c, msg := .onLaunch } .onLaunch ∧
    ((relaunchState s c).ctx c).behaviors = [(s.ctx c).script] ∧ ((relaunchState s c).ctx c).inc = (s.ctx c).inc + 1 ∧
    ((relaunchState s c).ctx c).state = .running ∧ ((relaunchState s c).ctx c).paused = false ∧
    ((relaunchState s c).ctx c).restarting = none ∧
    (∀ d, ((relaunchState s c).ctx d).sysQ = (s.ctx d).sysQ ∧ ((relaunchState s c).ctx d).userQ = (s.ctx d).userQ) := by
  refine ⟨handleRestart_relaunch s c hf (by omega), ?_, ?_, ?_, ?_, ?_, fun d => ?_⟩
  iterate 5 rw [relaunchState_ctx_self]
  by_cases hd : d = c
  · rw [hd, relaunchState_ctx_self]; exact ⟨rfl, rfl⟩
  · simp only [relaunchState, say_ctx, upd_ctx_other hd, and_self]

/-- The code as found sent that OnLaunch to the parent: witness on a two-actor system. -/
theorem C05_restart_launch_parent_witness :
    ∃ s : Sys, s.fixedLaunch = false ∧ (s.ctx 1).parent = some 0 ∧
      ((handleRestart s 1).ctx 1).sysQ = [] ∧ ((handleRestart s 1).ctx 0).sysQ.length = 1 :=
  ⟨{ init false with n := 2, ctx := fun c => if c = 0 then rootCtx else { blankCtx with parent := some 0, path := "/a" } },
    rfl, rfl, by decide, by decide⟩

/-- A failing restart hook turns the actor into a zombie: mailbox unpaused (it keeps draining), its own
system queue (no OnLaunch to itself) and its state as they were. -/
theorem C05_restart_hook_fails_zombie (s : Sys) (c : Cid)
    (hh : (s.ctx c).hooks / 4 % 2 = 1 ∨ (s.ctx c).hooks / 2 % 2 = 1) :
    ((handleRestart s c).ctx c).zombie = true ∧ ((handleRestart s c).ctx c).paused = false ∧
    ((handleRestart s c).ctx c).sysQ = (s.ctx c).sysQ ∧ ((handleRestart s c).ctx c).state = (s.ctx c).state := by
  rw [handleRestart_zombie s c hh, say_ctx, upd_ctx_self, upd_ctx_self]
  exact ⟨rfl, rfl, rfl, rfl⟩

end Vivid.ActorSys
