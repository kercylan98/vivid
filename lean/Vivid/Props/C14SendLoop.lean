import Vivid.Model.SendLoop

/-!
# C14 — the send loop (retry budget, dead letters, recovery, subsequence)

A single `tell` is known in closed form (`tryOk`, `try_eq`, `tell_eq`); a history keeps the two
logs an interleaving of what was told (`partition_gen`).

A `tell` is `Mailbox.send` of one envelope, run to its outcome before the next `tell` begins.  Not
modelled: when a `send` gives up, `Mailbox.drain` dead-letters with it the envelopes already waiting
in the outbound queue, without an attempt of their own; `C14_next_after_dead` therefore speaks of a
message told after the failed one was reported.
-/
namespace Vivid.SendLoop

def tryOk (n : Nat) (s : St) : Bool :=
  if s.conn then !s.broken || (n != 0 && s.peerUp) else s.peerUp

theorem try_noconn (n : Nat) (s : St) (hc : s.conn = false) : try_ n s = attempt s := by
  induction n with
  | zero => rfl
  | succ n ih =>
    cases s with | mk l c b p d dl de =>
    cases hc
    cases p
    · exact ih  -- the peer is away: the attempt fails and changes nothing
    · rfl       -- the dial succeeds

/-- A state with `broken` set and no connection is never reached but is not excluded either, hence
`s.broken && !s.conn`. -/
theorem try_eq (n : Nat) (s : St) : try_ n s =
    (if tryOk n s then
      { s with conn := true, broken := false,
               dials := if s.conn && !s.broken then s.dials else s.dials + 1 }
    else { s with conn := false, broken := s.broken && !s.conn }, tryOk n s) := by
  cases s with | mk l c b p d dl de =>
  cases c
  · exact (try_noconn n _ rfl).trans (by cases b <;> cases p <;> rfl)
  · cases b
    · cases n <;> rfl  -- a healthy connection: the first attempt writes
    · cases n
      · rfl
      · -- the first attempt drops the reset connection, the others start without one
        rw [try_]
        exact (try_noconn _ _ rfl).trans (by cases p <;> rfl)

theorem try_ok (n : Nat) (s : St) : (try_ n s).2 = tryOk n s :=
  congrArg Prod.snd (try_eq n s)

theorem tell_eq (s : St) (q : Nat) : tell s q =
    (if tryOk s.limit s then
      { s with conn := true, broken := false,
               dials := if s.conn && !s.broken then s.dials else s.dials + 1,
               delivered := s.delivered ++ [q] }
    else { s with conn := false, broken := s.broken && !s.conn, dead := s.dead ++ [q] },
    tryOk s.limit s) := by
  rw [tell, try_eq]
  cases tryOk s.limit s <;> rfl

theorem tell_ok (s : St) (q : Nat) : (tell s q).2 = tryOk s.limit s :=
  congrArg Prod.snd (tell_eq s q)

/-- **C14 (dead letter exactly when the budget is exhausted).** A `tell` fails — and only then is
the message dead-lettered — exactly when all `limit + 1` attempts fail: the cached connection was
reset and there is no retry left or nobody to reconnect to, or there is no connection and the
peer refuses. -/
theorem C14_try_fails_iff (s : St) :
    (try_ s.limit s).2 = false ↔
      (s.conn = true ∧ s.broken = true ∧ (s.limit = 0 ∨ s.peerUp = false)) ∨
      (s.conn = false ∧ s.peerUp = false) := by
  rw [try_ok, tryOk]
  cases s.conn <;> simp [Decidable.imp_iff_not_or]

/-- **C14 (recovery).** With the peer reachable and at least one reconnect attempt configured,
every `tell` is delivered, whatever happened to the connection before. -/
theorem C14_recovers (s : St) (q : Nat) (hp : s.peerUp = true) (hl : 1 ≤ s.limit) :
    (tell s q).2 = true := by
  have : (s.limit != 0) = true := bne_iff_ne.2 (Nat.ne_of_gt hl)
  rw [tell_ok, tryOk, hp, this]
  cases s.conn <;> cases s.broken <;> rfl

/-- **C14 (one fault costs at most one message).** If the peer is listening, the `tell` right
after a dead-lettered one is delivered: a broken connection is forgotten by the attempt that met
it.  (With the peer listening a `tell` is dead-lettered only when the budget is 0, by
`C14_recovers`; that is the case this speaks of.) -/
theorem C14_next_after_dead (s : St) (q q2 : Nat) (hp : s.peerUp = true)
    (hd : (tell s q).2 = false) : (tell (tell s q).1 q2).2 = true := by
  rw [tell_ok] at hd ⊢
  rw [tell_eq, hd]
  exact hp  -- no connection after the failure, so `tryOk` is `peerUp`

def sent : List Op → List Nat
  | [] => []
  | .tell q :: t => q :: sent t
  | _ :: t => sent t

theorem sent_cons (o : Op) (t : List Op) : sent (o :: t) = sent [o] ++ sent t := by
  cases o <;> rfl

theorem break_logs (s : St) : (break_ s).delivered = s.delivered ∧ (break_ s).dead = s.dead := by
  unfold break_; cases s.conn <;> exact ⟨rfl, rfl⟩

inductive Interleave : List Nat → List Nat → List Nat → Prop
  | nil : Interleave [] [] []
  | left {a b l} (x) : Interleave a b l → Interleave (a ++ [x]) b (l ++ [x])
  | right {a b l} (x) : Interleave a b l → Interleave a (b ++ [x]) (l ++ [x])

theorem step_interleave {s : St} {l : List Nat} (h : Interleave s.delivered s.dead l) (o : Op) :
    Interleave (step s o).delivered (step s o).dead (l ++ sent [o]) := by
  cases o with
  | tell q =>
    show Interleave (tell s q).1.delivered (tell s q).1.dead (l ++ [q])
    rw [tell_eq]
    cases tryOk s.limit s
    · exact .right q h
    · exact .left q h
  | up | brk | down => simpa [step, sent, up, down, break_logs] using h

theorem partition_gen (ops : List Op) : ∀ (s : St) (pre : List Nat),
    Interleave s.delivered s.dead pre →
    Interleave (run s ops).delivered (run s ops).dead (pre ++ sent ops) := by
  induction ops with
  | nil => intro s pre h; rw [sent, List.append_nil]; exact h
  | cons o t ih =>
    intro s pre h
    rw [sent_cons, ← List.append_assoc]
    exact ih _ _ (step_interleave h o)

/-- **C14 (never duplicated, reordered or invented).** The messages written to a connection
(`delivered`: an `attempt` returned `true`) and the messages dead-lettered are, each in order, a
partition of what was sent: every message is written once or reported dead, never both.  What the
peer receives of the written ones when connections are cut is `C14_link_subsequence`. -/
theorem C14_partition (s0 : St) (h0 : s0.delivered = [] ∧ s0.dead = []) (ops : List Op) :
    Interleave (run s0 ops).delivered (run s0 ops).dead (sent ops) :=
  partition_gen ops s0 [] (by rw [h0.1, h0.2]; exact .nil)

theorem Interleave.sublist_left {a b l} (h : Interleave a b l) : a.Sublist l := by
  induction h with
  | nil => exact .slnil
  | left x _ ih => exact List.Sublist.append ih (List.Sublist.refl _)
  | right x _ ih => exact ih.trans (List.sublist_append_left _ _)

/-- What is written to the peer is a subsequence of what was sent. -/
theorem C14_received_subsequence (s0 : St) (h0 : s0.delivered = [] ∧ s0.dead = []) (ops : List Op) :
    (run s0 ops).delivered.Sublist (sent ops) :=
  (C14_partition s0 h0 ops).sublist_left

/-- Non-vacuity: a reset connection with budget 0 costs exactly the one message that meets it. -/
example : (run { limit := 0 } [.up, .tell 0, .brk, .tell 1, .tell 2]).delivered = [0, 2] ∧
    (run { limit := 0 } [.up, .tell 0, .brk, .tell 1, .tell 2]).dead = [1] := by decide
example : (run { limit := 1 } [.up, .tell 0, .brk, .tell 1, .tell 2]).delivered = [0, 1, 2] := by decide

end Vivid.SendLoop
