import Vivid.Proofs.ActorSysFrame

/-!
# C19 — the event stream delivers each event once to exactly the current subscribers

The two Go tables (`subscribers`, `subscriberTypes`) are one relation `(type, path) ↦ ref` in the
model; the harness checks on every step that the two real tables describe the same relation
(ES-TABLES monitor).  `Keyed subs` — at most one entry per (type, path) — is the invariant; it
holds of the empty table and is preserved by every table operation (`C19_keyed_*`), whatever the
interleaving of Subscribe / Unsubscribe / UnsubscribeAll critical sections.
-/
namespace Vivid.ActorSys

def Keyed (subs : Subs) : Prop := (subs.map (fun e => (e.1, e.2.1))).Nodup

theorem keyed_nil : Keyed [] := by simp [Keyed]

theorem keyed_filter {subs : Subs} {f : Nat × Path × Cid → Bool} (h : Keyed subs) : Keyed (subs.filter f) :=
  List.Nodup.sublist (.map _ List.filter_sublist) h

theorem C19_keyed_sub (subs : Subs) (ty : Nat) (p : Path) (c : Cid) (h : Keyed subs) : Keyed (esSub subs ty p c) := by
  unfold esSub
  split
  · exact h
  · rename_i hn
    rw [Keyed, List.map_append]
    refine List.Nodup.concat h fun hm => hn ?_
    obtain ⟨x, hx, hxe⟩ := List.mem_map.1 hm
    exact List.any_eq_true.2 ⟨x, hx, by simpa using hxe⟩

theorem C19_keyed_unsub (subs : Subs) (ty : Nat) (p : Path) (h : Keyed subs) : Keyed (esUnsub subs ty p) :=
  keyed_filter h
theorem C19_keyed_unsubAll (subs : Subs) (p : Path) (h : Keyed subs) : Keyed (esUnsubAll subs p) :=
  keyed_filter h

/-- Subscribing twice has no additional effect. -/
theorem C19_subscribe_idem (subs : Subs) (ty : Nat) (p : Path) (c c' : Cid) :
    esSub (esSub subs ty p c) ty p c' = esSub subs ty p c := by
  have : (esSub subs ty p c).any (fun e => e.1 = ty ∧ e.2.1 = p) = true := by
    unfold esSub
    split
    · assumption
    · simp
  rw [esSub, if_pos this]

/-- After Unsubscribe, a later publication of that type does not reach the path; other
subscriptions (other types, other paths) are untouched. -/
theorem C19_unsub (subs : Subs) (ty : Nat) (p : Path) :
    (∀ e ∈ esUnsub subs ty p, ¬ (e.1 = ty ∧ e.2.1 = p)) ∧
    (∀ e ∈ subs, ¬ (e.1 = ty ∧ e.2.1 = p) → e ∈ esUnsub subs ty p) := by
  simp only [esUnsub, List.mem_filter, Bool.not_eq_true', decide_eq_false_iff_not]
  exact ⟨fun e he => he.2, fun e he hn => ⟨he, hn⟩⟩

/-- After UnsubscribeAll (also run on termination) the stream holds no entry for the path. -/
theorem C19_unsubAll (subs : Subs) (p : Path) :
    (∀ e ∈ esUnsubAll subs p, e.2.1 ≠ p) ∧ (∀ e ∈ subs, e.2.1 ≠ p → e ∈ esUnsubAll subs p) := by
  simp only [esUnsubAll, List.mem_filter, decide_eq_true_eq]
  exact ⟨fun e he => he.2, fun e he hn => ⟨he, hn⟩⟩

/-- Publication targets are the subscribers of the entries of that type, and nobody else. -/
theorem C19_publish_exact (subs : Subs) (ty : Nat) (c : Cid) :
    c ∈ esTargets subs ty ↔ ∃ p, (ty, p, c) ∈ subs := by
  unfold esTargets
  simp only [List.mem_map, List.mem_filter, decide_eq_true_eq]
  constructor
  · rintro ⟨⟨t, p, c'⟩, ⟨hm, ht⟩, hc⟩
    simp only at ht hc; subst ht; subst hc; exact ⟨p, hm⟩
  · rintro ⟨p, hm⟩; exact ⟨(ty, p, c), ⟨hm, rfl⟩, rfl⟩

/-- With `Keyed`, the entries of one type have distinct (type, path) keys: one event per subscription.  (Two paths may
still name the same recipient.) -/
theorem C19_publish_once_per_subscription (subs : Subs) (ty : Nat) (h : Keyed subs) :
    ((subs.filter (fun e => e.1 = ty)).map (fun e => (e.1, e.2.1))).Nodup :=
  keyed_filter h

/-- Termination releases the subscriptions: `cleanup` leaves no entry for the dead actor's path. -/
theorem C19_on_death (s : Sys) (c : Cid) : ∀ e ∈ (cleanup s c).subs, e.2.1 ≠ (s.ctx c).path := by
  obtain ⟨s1, hf, h⟩ := cleanup_shape s c
  rw [h, show (upd s1 c _).subs = s1.subs from rfl, hf.subs]
  exact (C19_unsubAll s.subs (s.ctx c).path).1

/-- A restart keeps the subscriptions (they are keyed by path, the path survives): the restart
itself does not touch the table — up to the point where the new incarnation's OnLaunch runs
(repaired code), which may of course subscribe or unsubscribe like any handler. -/
theorem C19_on_restart (s : Sys) (c : Cid)
    (h : ((s.ctx c).hooks / 4 % 2 = 1 ∨ (s.ctx c).hooks / 2 % 2 = 1) ∨ s.fixedLaunch = false) :
    (handleRestart s c).subs = s.subs := by
  by_cases hz : (s.ctx c).hooks / 4 % 2 = 1 ∨ (s.ctx c).hooks / 2 % 2 = 1
  · rw [handleRestart_zombie s c hz]; rfl
  · rw [handleRestart_found s c (h.resolve_left hz) hz]
    exact frame_tell.subs

theorem C19_on_restart_relaunch (s : Sys) (c : Cid) (hf : s.fixedLaunch = true)
    (h : ¬ ((s.ctx c).hooks / 4 % 2 = 1 ∨ (s.ctx c).hooks / 2 % 2 = 1)) :
    ∃ s3, handleRestart s c = execRecover s3 c (s.ctx c).script { id := 0, sys := true, sender := some c, msg := .onLaunch } .onLaunch ∧
      s3.subs = s.subs :=
  ⟨_, handleRestart_relaunch s c hf h, rfl⟩

end Vivid.ActorSys
