import Vivid.Generated.Registry
import Vivid.Model.Messages

/-! Binding tie for C12/C13/C15: the quantifier "every registered message type" is the registry
dumped from the code at every check.  Every registered name either has a schema in the model or is on the
explicit list of messages tied by the implementation-side round-trip monitor only. -/
namespace Vivid.Tie
open Vivid.Codec

def unmodelled : List String :=
  ["PipeResult", "SchedulerMessage", "clusterSingletonForwardedMessage"]

/-- Both inclusions in one evaluation: they compare the same names, and the kernel turns each string
literal into its bytes once per evaluation. -/
theorem registry_tie :
    (∀ n ∈ Vivid.Generated.registeredNames, (schemaOf none n).isSome = true ∨ n ∈ unmodelled) ∧
    ∀ e ∈ schemaTable none, e.1 ∈ Vivid.Generated.registeredNames := by decide +kernel

theorem registry_covered :
    ∀ n ∈ Vivid.Generated.registeredNames, (schemaOf none n).isSome = true ∨ n ∈ unmodelled :=
  registry_tie.1

theorem schemas_are_registered :
    ∀ e ∈ schemaTable none, e.1 ∈ Vivid.Generated.registeredNames :=
  registry_tie.2

end Vivid.Tie
