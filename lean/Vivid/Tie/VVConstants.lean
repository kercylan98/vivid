import Vivid.Generated.Constants
import Vivid.Model.VersionVector

/-! Binding tie: the limits of `Model/VersionVector.lean` are the ones dumped from the code at every check.  (The wire theorems of
`Props/C16Wire.lean` carry their limits as literals in the schema.) -/
namespace Vivid.Tie

theorem vv_maxCounter : Vivid.Generated.vvMaxCounterValue = Vivid.VV.maxCounter := by decide
theorem vv_maxEntries : Vivid.Generated.vvMaxEntries = Vivid.VV.maxEntries := by decide
theorem vv_maxNodeLen : Vivid.Generated.vvMaxNodeAddressLength = Vivid.VV.maxNodeLen := by decide

end Vivid.Tie
